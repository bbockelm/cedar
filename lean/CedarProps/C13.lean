/-
  C13 — Decoding is total and bounded: no panic, no runaway allocation, caps honoured.
  Property theorems only; helper lemmas live in CedarProofs/Decode*.lean.

  Every theorem is about ALL decoder states `s` — any buffered bytes, any sequence of frames still
  to come (any payloads, any end-of-message flags, possibly none), both string modes, key or no
  key, any meters — i.e. all byte sequences a peer can make the typed layer see; the frame layer
  theorems are about all raw wire byte strings. Meters: `frames` (frames taken from the wire),
  `calls` (string-level operations = loop rounds of the readers), `alloc` (bytes allocated),
  `need` (largest amount ever requested from the wire at once), `held` (longest value under
  construction), `depth` (stack frames of the multi-frame reader).

  `.panic` is the model's mark for an operation Go aborts on (`make` with a negative size); `total_*`
  say that no entry point reaches one. They do NOT say that the fuelled loops of the model have fuel
  enough: running out of it is the error `.state`, which `total_*` allow and `linear_*` bound like any
  other outcome. The fuel chosen in CedarModel/Decode.lean is compared with the code only on the
  inputs the `decode` engine runs.
-/
import CedarProofs.DecodeEntry
import CedarProofs.DecodeFrames
import CedarProofs.DecodeRuns
import CedarProofs.DecodeText
import CedarGen.FactsAdRead
import CedarGen.FactsAlloc

namespace Cedar.C13

open Cedar Cedar.Decode

/-! ## total: malformed input yields an error, never a panic -/

/-- No typed read panics, whatever is buffered and whatever frames follow: bytes, integers,
    strings in both modes (a negative or absurd length prefix included), capped strings for every
    cap, raw byte runs for every requested count (negative, huge), skipped strings. -/
theorem total_typed (s : St) (cap : Nat) (n : Int) :
    (getChar s).1 ≠ .error .panic ∧ (getInt s).1 ≠ .error .panic ∧ (getInt32 s).1 ≠ .error .panic ∧
    (getString s).1 ≠ .error .panic ∧ (getStringMax cap s).1 ≠ .error .panic ∧
    (getBytes n s).1 ≠ .error .panic ∧ (skipString s).1 ≠ .error .panic :=
  ⟨(getChar_facts s).np, (getInt_facts s).np, (getInt32_facts s).np, (getString_facts s).1.np,
   (getStringMax_facts cap s).str.np, (getBytes_facts n s).np, (skipString_facts s).np⟩

/-- `GetClassAd`, `GetClassAdWithMaxSize cap` (every cap, every verdict of the expression parser),
    `GetClassAdRaw`, `GetClassAdRawBody n` (every count, negative and 2^62 included) and
    `SkipClassAdRaw` never panic, secret markers anywhere. -/
theorem total_classad (s : St) (cap : Nat) (pfail : Option Nat) (n : Int) :
    (getClassAd cap pfail s).1 ≠ .error .panic ∧ (getClassAdRaw s).1 ≠ .error .panic ∧
    (rawBody n s).1 ≠ .error .panic ∧ (skipClassAdRaw s).1 ≠ .error .panic :=
  ⟨(getClassAd_facts cap pfail s).1.np, (getClassAdRaw_facts s).np, (rawBody_facts n s).np,
   (skipClassAdRaw_facts s).1.np⟩

/-- The TLS record reader (status, length, data), the key-exchange record, the identity string and
    the token of the token exchange never panic, whatever lengths the peer announces. -/
theorem total_handshake (s : St) :
    (tlsRecv s).1 ≠ .error .panic ∧ (exchangeKey s).1 ≠ .error .panic ∧
    (getIDString s).1 ≠ .error .panic ∧ (getToken s).1 ≠ .error .panic :=
  ⟨(tlsRecv_facts s).np, (exchangeKey_facts s).np, (getIDString_facts s).1.np,
   (getStringMax_facts maxTokenLen s).str.np⟩

/-- The remaining length-prefixed handshake readers, the Kerberos request blob (code, length, data)
    and the optional raw fields of the token exchange's error-state branches (`fieldLen`, then that
    many raw bytes): never a panic, and what they allocate is paid for by bytes that arrived,
    whatever length the peer announces. (The other readers of these sub-protocols are
    `getIDString`, `getToken`, capped strings and integers: above.) -/
theorem total_linear_subprotocols (s : St) :
    (krbRead s).1 ≠ .error .panic ∧ Linear 0 s (krbRead s).2 ∧
    (rawField s).1 ≠ .error .panic ∧ Linear 0 s (rawField s).2 :=
  have k : Outcome (krbRead s) (EntryFacts 0 s) := krbRead_eq s ▸ tlsRecv_facts s
  ⟨k.np, k.linear, (rawField_facts s).np, (rawField_facts s).linear⟩

/-- For every wire byte string (and every fuel), one frame, a complete message, a message read
    through `StartMessageRead`, and the shared-port hand-off header end in a value or an error,
    never a panic. -/
theorem total_framing (encOn : Bool) (w : Bytes) (fuel : Nat) (acc : Bytes) (m : WMeter) :
    (recvFrame encOn w m).1 ≠ .error .panic ∧ (recvComplete encOn fuel w acc m).1 ≠ .error .panic ∧
    (readMessage encOn fuel w acc m).1 ≠ .error .panic ∧ (readPassSock w).1 ≠ .error .panic :=
  ⟨(recvFrame_facts encOn w m).np, (recvComplete_facts encOn fuel w acc m).1.np,
   (readMessage_facts encOn fuel w acc m).1.np, (readPassSock_facts w).1⟩

/-- Claim-id text and session-state blob: `ImportSessionInfoAttributes` accepts every text (a lone
    quote as value included: F-C13-lone-quote), `ImportSecSessionInfo` and
    `NewStreamWithCryptoState` reject or accept, never panic. (`ParseClaimIDStrict` is a total
    function returning a record: nothing to state.) -/
theorem total_text_blob (b : Bytes) :
    (∃ a, Claim.importAttrs b = .ok a) ∧ Claim.importInfo b ≠ .error .panic ∧ importBlob b ≠ .error .panic :=
  ⟨importAttrs_total b, importInfo_np b, importBlob_np b⟩

/-! ## linear: work and allocation in proportion to the bytes received -/

theorem linear_typed (s : St) (cap : Nat) (n : Int) :
    Linear 0 s (getChar s).2 ∧ Linear 0 s (getInt s).2 ∧ Linear 1 s (getString s).2 ∧
    Linear 1 s (getStringMax cap s).2 ∧ Linear 0 s (getBytes n s).2 ∧ Linear 1 s (skipString s).2 :=
  ⟨(getChar_facts s).entry.linear, (getInt_facts s).entry.linear, (getString_facts s).1.entry.linear,
   (getStringMax_facts cap s).str.entry.linear, (getBytes_facts n s).entry.linear, (skipString_facts s).entry.linear⟩

/-- The number of loop rounds of every ClassAd receiver is bounded by the bytes of the message plus
    4, NOT by the expression count the peer announced (F-C13-raw-count-spin), for every count. -/
theorem linear_classad (s : St) (cap : Nat) (pfail : Option Nat) (n : Int) :
    Linear 4 s (getClassAd cap pfail s).2 ∧ Linear 4 s (getClassAdRaw s).2 ∧
    Linear 4 s (rawBody n s).2 ∧ Linear 3 s (skipClassAdRaw s).2 :=
  ⟨(getClassAd_facts cap pfail s).1.linear, (getClassAdRaw_facts s).linear, (rawBody_facts n s).linear,
   (skipClassAdRaw_facts s).1.linear⟩

/-- The buffers of `receiveMessage` / `exchangeKey` are paid for by bytes that actually arrived
    (F-C13-handshake-alloc), whatever length was announced. -/
theorem linear_handshake (s : St) :
    Linear 0 s (tlsRecv s).2 ∧ Linear 0 s (exchangeKey s).2 ∧ Linear 1 s (getIDString s).2 ∧
    Linear 1 s (getToken s).2 :=
  ⟨(tlsRecv_facts s).linear, (exchangeKey_facts s).linear, (getIDString_facts s).1.linear,
   (getStringMax_facts maxTokenLen s).str.entry.linear⟩

/-- Reading a message off `w` parses at most `|w|/5 + 1` headers, allocates at most `2·|w|` plus one
    maximal frame (the payload buffer is sized from the header before its bytes arrive, bounded by
    `MaxMessageSize`), and the reader behind `StartMessageRead` uses constant stack
    (F-C13-readnext-recursion). -/
theorem linear_framing (encOn : Bool) (w : Bytes) (fuel : Nat) :
    let a := (recvComplete encOn fuel w [] {}).2
    let b := (readMessage encOn fuel w [] {}).2
    headerSize * a.frames ≤ w.length + headerSize ∧ a.alloc ≤ 2 * w.length + maxMessageSize ∧ a.depth = 0 ∧
    headerSize * b.frames ≤ w.length + headerSize ∧ b.alloc ≤ 2 * w.length + maxMessageSize ∧ b.depth ≤ 1 := by
  obtain ⟨fa, da⟩ := recvComplete_facts encOn fuel w [] {}
  obtain ⟨fb, db⟩ := readMessage_facts encOn fuel w [] {}
  exact ⟨fa.fresh.1, fa.fresh.2, da, fb.fresh.1, fb.fresh.2, by simpa using db⟩

/-- The frame reader without end flag and its callers: `stream.ReceiveFrame`, `Stream.GetSecret`
    (key or no key) and `Stream.GetFile` end in a value or an error for every wire byte string: a
    size frame of any length and any signed value, chunk frames of any sizes, any end marker. -/
theorem total_framing_noend (key encOn : Bool) (w : Bytes) (m : WMeter) :
    (recvFrameNE encOn w m).1 ≠ .error .panic ∧ (getSecretW key encOn w m).1 ≠ .error .panic ∧
    (getFile encOn w m).1 ≠ .error .panic :=
  ⟨(recvFrameNE_facts encOn w m).1.np, (getSecretW_facts key encOn w m).np, (getFile_facts encOn w m).1.np⟩

/-- A header announcing more than `MaxMessageSize` is refused before any buffer is sized from it,
    by both frame readers, with not a byte allocated (what keeps a 5-byte header from costing
    4 GiB: `getSecretW`, `getFile`, `recvComplete` and `readMessage` begin with one of these reads). -/
theorem oversize_header_refused (encOn : Bool) (w : Bytes) (m : WMeter)
    (h5 : Decode.headerSize ≤ w.length) (hbig : beVal ((w.drop 1).take 4) > Decode.maxMessageSize) :
    recvFrameNE encOn w m = (.error .tooLarge, { m with frames := m.frames + 1 }) ∧
    recvFrame encOn w m = (.error .tooLarge, { m with frames := m.frames + 1 }) := by
  have hf := recvFrame_tooLarge encOn w m h5 hbig
  exact ⟨by rw [recvFrameNE_eq, hf], hf⟩

/-- Reading a secret or a whole file off `w` parses at most `|w|/5 + 1` headers and allocates at most
    `|w|` plus ONE maximal frame (only the last, failing read can have sized its buffer from a
    header whose payload never came), uses no recursion; and `GetFile` writes no more bytes to the
    file than the wire delivered, whatever file size the peer announced. -/
theorem linear_framing_noend (key encOn : Bool) (w : Bytes) :
    let a := (recvFrameNE encOn w {}).2
    let b := (getSecretW key encOn w {}).2
    let c := (getFile encOn w {}).2
    (Decode.headerSize * a.frames ≤ w.length + Decode.headerSize ∧ a.alloc ≤ w.length + Decode.maxMessageSize ∧ a.depth = 0) ∧
    (Decode.headerSize * b.frames ≤ w.length + Decode.headerSize ∧ b.alloc ≤ w.length + Decode.maxMessageSize ∧ b.depth = 0) ∧
    (Decode.headerSize * c.frames ≤ w.length + Decode.headerSize ∧ c.alloc ≤ w.length + Decode.maxMessageSize ∧ c.depth = 0) ∧
    ∀ t rest, (getFile encOn w {}).1 = .ok (t, rest) → t + rest.length ≤ w.length := by
  obtain ⟨fc, hw⟩ := getFile_facts encOn w {}
  exact ⟨(recvFrameNE_facts encOn w {}).1.fresh, (getSecretW_facts key encOn w {}).fresh, fc.fresh, hw⟩

/-- 64 is `spMaxPayload`, `maxHeaderPayload` of client/sharedport/endpoint_protocol.go -/
theorem passsock_bounded (w : Bytes) : (readPassSock w).2 ≤ 64 := (readPassSock_facts w).2

/-! ## cap honoured -/

/-- What `need` means: frames are pulled only while the buffer is shorter than what was asked for.
    With frames of at most `F` payload bytes (the frame layer enforces `MaxMessageSize`), the
    buffer after `ensureData(n)` holds at most `n + F` bytes, or what it held before. -/
theorem buffer_bound (n F : Nat) (s : St) (hF : FramesLe F s.d.src) :
    (ensure n s).2.d.buf.length ≤ max s.d.buf.length (n + F) :=
  (ensure_facts n s).bound F hF

/-- `GetStringWithMaxSize(cap)`: a returned value is at most `cap` bytes; never more than
    `max cap 8` bytes are requested from the wire at once and no value longer than `max cap 8` is
    ever under construction; at most `cap + 8` bytes of the message are consumed, whatever length
    the peer announced or however long it keeps sending. -/
theorem cap_string (cap : Nat) (s : St) :
    (∀ v, (getStringMax cap s).1 = .ok v → v.length ≤ cap) ∧
    (getStringMax cap s).2.m.need ≤ max s.m.need (max cap 8) ∧
    (getStringMax cap s).2.m.held ≤ max s.m.held (max cap 8) ∧
    s.bytes ≤ (getStringMax cap s).2.bytes + cap + 8 :=
  ⟨(getStringMax_facts cap s).resLen, (getStringMax_facts cap s).capLaw.need,
   (getStringMax_facts cap s).capLaw.held, (getStringMax_facts cap s).most⟩

/-- The bounded ClassAd reader (used for every handshake ad): with `cap > 0`, whatever the
    expression count, the string lengths and the number of secret markers, nothing beyond
    `max cap 8` bytes is requested from the wire at once and no value longer than `max cap 8` is
    under construction at any point, the secret-marker branch included (F-C13-secret-uncapped). -/
theorem cap_classad (cap : Nat) (hc : 0 < cap) (pfail : Option Nat) (s : St) :
    (getClassAd cap pfail s).2.m.need ≤ max s.m.need (max cap 8) ∧
    (getClassAd cap pfail s).2.m.held ≤ max s.m.held (max cap 8) :=
  ⟨((getClassAd_facts cap pfail s).2 hc).need, ((getClassAd_facts cap pfail s).2 hc).held⟩

/-! ## "the bounded ClassAd reader used for every handshake ad" -/

/-- Enclosing functions in security/ and ccb/ that read a ClassAd which is NOT a handshake /
    control ad and may therefore use an uncapped reader. Hand-written; empty today: every ClassAd
    these two packages read from a peer (negotiation ad, post-authentication ad, resume reply,
    CCB control and reverse-connect ads) arrives before or while the peer is authenticated. -/
def notHandshakeAdReaders : List String := []

/-- the largest cap a handshake reader may pass (64 KiB: `ccb.maxControlAdSize`) -/
def maxHandshakeAdCap : Nat := 65536

/-- Every handshake ad is read by the bounded reader: over the table of ALL calls of a ClassAd
    reader of package message in security/ and ccb/ (regenerated from the sources on every run,
    `tools/gen/facts_adread.go`): each is `GetClassAdWithMaxSize` with a compile-time constant cap
    between 1 and 64 KiB. A call of `GetClassAd`, `GetClassAdRaw`, … or a cap computed at run time
    added to a handshake breaks this theorem. -/
theorem handshake_ads_capped :
    ∀ s ∈ CedarGen.FactsAdRead.adReadSites,
      s.fn ∈ notHandshakeAdReaders ∨ (s.capped = true ∧ 0 < s.cap ∧ s.cap ≤ maxHandshakeAdCap) := by
  decide +kernel

/-- hence at every such site nothing beyond 64 KiB is ever requested from the wire at once or held
    under construction, whatever the peer sends (what `cap_classad` says, at the site's cap) -/
theorem handshake_ads_bounded (pfail : Option Nat) (st : St) :
    ∀ s ∈ CedarGen.FactsAdRead.adReadSites, s.fn ∉ notHandshakeAdReaders →
      (getClassAd s.cap pfail st).2.m.need ≤ max st.m.need maxHandshakeAdCap ∧
      (getClassAd s.cap pfail st).2.m.held ≤ max st.m.held maxHandshakeAdCap := by
  intro s hs hn
  rcases handshake_ads_capped s hs with h | ⟨_, hpos, hle⟩
  · exact absurd h hn
  · have c := ((getClassAd_facts s.cap pfail st).2 hpos).mono (Nat.max_le.mpr ⟨hle, by decide⟩)
    exact ⟨c.need, c.held⟩

/-- every slice allocation in the packages that handle peer input whose size is a VARIABLE, with what
    bounds that variable (read off the code; the engines measure the same sites dynamically) -/
def declaredVariableSized : List (String × String × String) := [
  -- shared-port header: the length field is checked against the header limit before the read (passsock_bounded)
  ("client/sharedport", "readPassSockHeader", "length"),
  -- control-message space for ONE descriptor: a function of the constant 4
  ("client/sharedport", "receiveForwardedConn", "syscall.CmsgSpace(4)"),
  -- typed layer: sized only after `ensureData` saw that many bytes ARRIVE in the message (linear_typed)
  ("message", "GetBytes", "numBytes"),
  ("message", "GetRemainingBytes", "m.buffer.Len()"),
  -- encrypted-mode string: the length prefix is rejected when negative or beyond what the message holds (total_typed)
  ("message", "GetString", "length"),
  -- capped string: at most the caller's cap (cap_string)
  ("message", "GetStringWithMaxSize", "bytesToRead"),
  -- key derivation: the caller's constant key length
  ("security", "deriveSessionKey", "keyLen"),
  -- SciToken: the announced size is checked against the sub-protocol limit first (F-C13-scitoken-alloc)
  ("security", "exchangeSciToken", "tokenSize"),
  -- minting: the caller's constant
  ("security", "randomHexKey", "nbytes"),
  -- session-state blob: each variable-length field is checked against the bytes left in the blob (total_text_blob)
  ("stream", "NewStreamWithCryptoState", "n"),
  -- frames: the announced length is checked against MaxMessageSize before the allocation (oversize_header_refused)
  ("stream", "ReceiveFrame", "messageLength"),
  ("stream", "ReceiveFrameWithEnd", "messageLength"),
  -- sending: plaintext length plus the constant overhead
  ("stream", "encryptDataWithAAD", "outputSize"),
  ("stream", "grabFrame", "n") ]

/-- Over the table of ALL slice allocations in stream/, message/, security/, ccb/, client/, server/,
    addresses/ whose size is neither a constant nor the length of something that already exists
    (regenerated on every run, `tools/gen/facts_alloc.go`): each is one of the sites above, whose
    size is bounded before the allocation. A `make([]byte, n)` on a freshly decoded length added
    anywhere in those packages is a new row and breaks this theorem, whether or not an engine
    drives that code. -/
theorem variable_sized_allocations_declared :
    (∀ s ∈ CedarGen.FactsAlloc.variableSized, s ∈ declaredVariableSized) ∧
    CedarGen.FactsAlloc.variableSized ≠ [] := by
  decide +kernel

/-- non-vacuity: the table is not empty — it lists the negotiation ad of both roles, the
    post-authentication ad, the resume reply and both CCB readers -/
example : CedarGen.FactsAdRead.adReadSites.length ≥ 6 ∧
    "GetClassAdWithMaxSize" ∈ CedarGen.FactsAdRead.adReaders ∧ "GetClassAd" ∈ CedarGen.FactsAdRead.adReaders := by decide +kernel

/-- `SkipClassAdRaw` follows the secret marker by looking only at strings announced as long as the
    marker or one byte longer (`skipStringIs`: a `GetBytes` of at most `|marker| + 1 = 4` bytes); whatever the
    ad, it never asks the wire for more than 8 bytes at once and never holds a value longer than 8 bytes. -/
theorem cap_skip (s : St) :
    (skipClassAdRaw s).2.m.need ≤ max s.m.need 8 ∧ (skipClassAdRaw s).2.m.held ≤ max s.m.held 8 :=
  ⟨(skipClassAdRaw_facts s).2.need, (skipClassAdRaw_facts s).2.held⟩

/-- Cap exceeded ⇒ the read FAILS (not only "consumption is bounded"): with `cap > 0`,
    * a plaintext string whose first `cap` buffered bytes hold no terminator is refused
      (`sizeExceeded`) — it is not returned truncated;
    * an encrypted-mode string announcing more than `cap` bytes is never returned, whatever follows;
    * in the bounded ClassAd reader, once the running total has reached the cap, the next string —
      expression, secret after a marker, MyType, TargetType — is refused without touching the
      message (`sizeExceeded`, state unchanged), so the ad as a whole fails. -/
theorem cap_exceeded_fails (cap : Nat) (hc : 0 < cap) :
    (∀ (s : St) (pre rest : Bytes), s.enc = false → s.d.buf = pre ++ rest → pre.length = cap →
        (∀ b ∈ pre, b ≠ 0) → (getStringMax cap s).1 = .error .sizeExceeded) ∧
    (∀ (s : St) (len : Int) (s1 : St), s.enc = true → getInt32 s.call = (.ok len, s1) → (cap : Int) < len →
        ∀ v, (getStringMax cap s).1 ≠ .ok v) ∧
    (∀ (total : Nat) (s : St), cap ≤ total →
        adString cap total s = (.error .sizeExceeded, s) ∧ adSecret cap total s = (.error .sizeExceeded, s)) :=
  ⟨getStringMax_plain_fails cap hc, getStringMax_enc_fails cap hc, adString_over_budget cap hc⟩

/-- non-vacuity: cap 4 on the plaintext bytes "abcdef\0" fails; cap 8 returns the string -/
example : isErr .sizeExceeded (getStringMax 4 { d := { buf := [97, 98, 99, 100, 101, 102, 0] } }).1 = true ∧
    (getStringMax 8 { d := { buf := [97, 98, 99, 100, 101, 102, 0] } }).1.isOk = true := by decide +kernel

/-- Identity strings and tokens are read under their limits (`AUTH_PW_MAX_NAME_LEN`,
    `AUTH_PW_MAX_TOKEN_LEN`). -/
theorem cap_handshake (s : St) :
    (∀ v, (getIDString s).1 = .ok v → v.length ≤ maxNameLen) ∧
    (getIDString s).2.m.held ≤ max s.m.held (max maxNameLen 8) ∧
    (∀ v, (getToken s).1 = .ok v → v.length ≤ maxTokenLen) ∧
    (getToken s).2.m.held ≤ max s.m.held (max maxTokenLen 8) :=
  ⟨(getIDString_facts s).2.2, (getIDString_facts s).2.1.held,
   (getStringMax_facts maxTokenLen s).resLen, (getStringMax_facts maxTokenLen s).capLaw.held⟩

/-! ## `Legacy`, the code before each fix, violates its clause (witnesses replayed on the Go code by
    the `decode` engine) -/

/-- an encrypted-mode message whose first eight bytes are the length −1 -/
def negLen : St := { d := { src := [(List.replicate 8 255, true)] }, enc := true }

def legacy_total_statement : Prop := ∀ s, (Legacy.getStringEnc s).1 ≠ .error .panic

/-- F-C13-negative-string-length: `GetString` on an encrypted stream reaches `make([]byte, -1)`. -/
theorem legacy_total_fails : ¬ legacy_total_statement := by
  intro h
  have : isErr .panic (Legacy.getStringEnc negLen).1 = true := by decide +kernel
  exact h negLen ((isErr_iff _ _).mp this)

example : isErr .malformed (getString negLen).1 = true := by decide +kernel

/-- a 16-byte TLS record announcing `n` data bytes -/
def tlsMsg (n : Nat) : St := { d := { src := [(be64 2 ++ be64 n, true)] } }

def legacy_alloc_statement : Prop := ∀ s, (Legacy.tlsRecv s).2.m.alloc ≤ s.m.alloc + 4 * s.bytes

/-- F-C13-handshake-alloc: `receiveMessage` sizes a buffer from the peer's integer, 2^40 bytes for
    a 16-byte message. -/
theorem legacy_alloc_fails : ¬ legacy_alloc_statement := by
  intro h
  have h1 : (Legacy.tlsRecv (tlsMsg (2^40))).2.m.alloc ≥ 2^40 := by decide +kernel
  have h2 : (tlsMsg (2^40)).m.alloc + 4 * (tlsMsg (2^40)).bytes = 64 := by decide +kernel
  have := h (tlsMsg (2^40))
  omega

example : (tlsRecv (tlsMsg (2^40))).2.m.alloc ≤ 64 ∧ isErr .eom (tlsRecv (tlsMsg (2^40))).1 = true := by decide +kernel

def legacy_steps_statement : Prop :=
  ∃ k, ∀ n s, (Legacy.rawLoop n s []).2.m.calls ≤ s.m.calls + s.bytes + k

/-- F-C13-raw-count-spin: on an exhausted plaintext message the raw reader goes round once per
    ANNOUNCED expression; no bound in terms of the input exists. -/
theorem legacy_steps_fails : ¬ legacy_steps_statement := by
  intro ⟨k, h⟩
  have := h (k + 1) (sEOM {})
  rw [legacy_rawLoop_calls] at this
  have hb : (sEOM {}).bytes = 0 := rfl
  have hc : (sEOM {}).m.calls = 0 := rfl
  omega

def legacy_depth_statement : Prop :=
  ∃ D, ∀ w fuel, (Legacy.readMessage false fuel w [] 0 {}).2.depth ≤ D

/-- F-C13-readnext-recursion: `readNextFrame` uses one stack frame per partial frame; `k` empty
    partial frames (5·k wire bytes) give depth `k + 1`. -/
theorem legacy_depth_fails : ¬ legacy_depth_statement := by
  intro ⟨D, h⟩
  have := h (flood D) (D + 1)
  rw [legacy_depth D (D + 1) 0 [] {} (Nat.lt_succ_self _)] at this
  simp only [Nat.zero_add] at this
  have : D + 1 ≤ D := Nat.le_trans (Nat.le_max_right _ _) this
  omega

/-- a plaintext message: the marker, then a 12-byte secret -/
def markerMsg : St := { d := { src := [([90, 75, 77, 0, 65, 61, 49, 50, 51, 52, 53, 54, 55, 56, 57, 48, 0], true)] } }

def legacy_cap_statement : Prop :=
  ∀ cap total s, 0 < cap → (Legacy.adSecret cap total s).2.m.held ≤ max s.m.held (max cap 8)

/-- F-C13-secret-uncapped: the secret after a marker is read with no budget. -/
theorem legacy_cap_fails : ¬ legacy_cap_statement := by
  intro h
  have h0 : (getString markerMsg).2.m.held = 3 := by decide +kernel
  have h1 : (Legacy.adSecret 4 4 (getString markerMsg).2).2.m.held = 12 := by decide +kernel
  have := h 4 4 (getString markerMsg).2 (by decide)
  omega

example : isErr .sizeExceeded (adSecret 4 4 (getString markerMsg).2).1 = true := by decide +kernel

/-- non-vacuity: a 3-byte file in two chunks is received (size, "ab", "c", 666), 3 bytes written;
    a header announcing 2^20+1 bytes is refused with nothing allocated -/
def fileWire : Bytes := [1,0,0,0,8, 0,0,0,0,0,0,0,3, 1,0,0,0,2, 97,98, 1,0,0,0,1, 99, 1,0,0,0,4, 0,0,2,154]
example : (match (getFile false fileWire {}).1 with | .ok (3, []) => true | _ => false) = true ∧
    (getFile false fileWire {}).2.alloc = 15 := by decide +kernel
example : isErr .tooLarge (getSecretW false false [1, 0, 16, 0, 1] {}).1 = true ∧
    (getSecretW false false [1, 0, 16, 0, 1] {}).2.alloc = 0 := by decide +kernel

/-! Non-vacuity: a valid plaintext ad with a secret, read by every receiver. -/
def demoPlain : St := { d := { src := [(be64 2 ++ [65, 61, 49, 0, 90, 75, 77, 0, 66, 61, 50, 0, 77, 0, 0], true)] } }
example : isErr .panic (getClassAd 0 none demoPlain).1 = false ∧ (getClassAd 0 none demoPlain).1.isOk = true := by decide +kernel
example : (getClassAd 64 none demoPlain).1.isOk = true ∧ (skipClassAdRaw demoPlain).1.isOk = true := by decide +kernel
example : (getClassAd 7 none demoPlain).1.isOk = false := by decide +kernel
example : (getClassAdRaw demoPlain).1.isOk = true := by decide +kernel
/-- the skipping reader takes the marker path and ends where the parsing reader ends -/
example : (skipClassAdRaw demoPlain).2.m.calls = (getClassAd 0 none demoPlain).2.m.calls ∧
    (skipClassAdRaw demoPlain).2.bytes = 0 := by decide +kernel

end Cedar.C13
