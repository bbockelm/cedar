/-
  C02 — An encrypted stream delivers only an authentic, in-order prefix of what was sent.
  The property once, for the list of frames `ReceiveFrameWithEnd` accepts
  (`accepted_prefix_midstream`); each receive path is a function of that list
  (CedarProofs/{Prefix,ReceivePaths}.lean).
-/
import CedarProofs.ReceivePaths

namespace Cedar.C02

open Cedar

/-- The on-path adversary (Dolev–Yao, DESIGN §3): the wire the receiver sees is *any* list of
    frames with arbitrary headers whose bodies are arbitrary bytes or seals under the session key
    that occur in frames the sender emitted (`sent`) or in frames the receiving endpoint itself
    emitted in the other direction (`own`: reflection), IV prefix kept, stripped or replaced (by
    any 16 bytes: the leading word is a 32-bit value) —
    i.e. frames may be dropped, duplicated, reordered, replayed, truncated, bit-flipped (⇒ junk),
    forged (⇒ junk, including empty frames), re-headed or reflected. It cannot make a seal under the
    session key itself; the two endpoints are the only holders of the key. -/
def AdvWire (k : Nat) (sent own w : List WireFrame) : Prop :=
  ∀ g ∈ w, match g.body with
    | .raw _ => True
    | .ct ivo c => (∀ i, ivo = some i → i.w0 < 2^32) ∧
                   (c.key = k → (∃ f ∈ sent, ∃ ivo', f.body = .ct ivo' c) ∨
                                (∃ f ∈ own, ∃ ivo', f.body = .ct ivo' c))

/-! ### Replay across connections of one session

A resumed connection is keyed with the SAME session key as the earlier connections of the session,
so the adversary also holds every protected frame recorded on those (`old`, both directions).
`AdvWire` excludes them by hypothesis. `AdvWireS` adds them; the two facts that make them harmless
are stated as explicit session hypotheses (`OldConnections`), as the separation of the two
directions' IVs is (`hsep` below). -/

/-- `AdvWire` plus the frames `old` recorded on earlier connections of the session -/
def AdvWireS (k : Nat) (sent own old w : List WireFrame) : Prop :=
  ∀ g ∈ w, match g.body with
    | .raw _ => True
    | .ct ivo c => (∀ i, ivo = some i → i.w0 < 2^32) ∧
                   (c.key = k → (∃ f ∈ sent, ∃ ivo', f.body = .ct ivo' c) ∨
                                (∃ f ∈ own, ∃ ivo', f.body = .ct ivo' c) ∨
                                (∃ f ∈ old, ∃ ivo', f.body = .ct ivo' c))

/-- Session hypotheses about the recorded frames, seen from the current receiver (sender base IV
    `ivS`, expected first-frame digest pair `rdg`):
    `iv_fresh` — every earlier connection used, in each direction, a base IV whose last 12 bytes
    differ from the current sender's (independent `crypto/rand` draws per `SetSymmetricKey`);
    `transcript_fresh` — an earlier connection's first frames were sealed over another cleartext
    transcript (the resumption reply carries a fresh `ResumeNonce`; in the legacy no-reply mode this
    FAILS: `C06.noreply_replay_fails`, known finding F-C06-noreply-replay). -/
structure OldConnections (k : Nat) (ivS : IV) (rdg : Digest × Digest) (old : List WireFrame) : Prop where
  iv_fresh : ∀ f ∈ old, ∀ ivo c, f.body = .ct ivo c → c.key = k → c.nonce.tail ≠ ivS.tail
  transcript_fresh : ∀ f ∈ old, ∀ ivo c, f.body = .ct ivo c → c.key = k → c.aad.digests ≠ some rdg

theorem advWire_advWireS {k sent own w} (h : AdvWire k sent own w) : AdvWireS k sent own [] w := by
  intro g hg
  have := h g hg
  cases hb : g.body with
  | raw b => trivial
  | ct ivo c =>
    simp only [hb] at this ⊢
    exact ⟨this.1, fun hk => (this.2 hk).elim .inl (fun x => .inr (.inl x))⟩

theorem oldConnections_nil (k : Nat) (iv : IV) (rdg : Digest × Digest) : OldConnections k iv rdg [] :=
  ⟨fun _ h => (nomatch h), fun _ h => (nomatch h)⟩

theorem advWireS_advFrameO {k iv ivR dg dgR rdg c0 cR items itemsR sent own old w}
    (hsep : iv.tail ≠ ivR.tail)
    (hsent : sent = framesFrom k iv dg c0 items) (hown : own = framesFrom k ivR dgR cR itemsR)
    (hold : OldConnections k iv rdg old)
    (h : AdvWireS k sent own old w) :
    ∀ g ∈ w, AdvFrameO k iv dg ivR rdg c0 items g := by
  intro g hg
  have := h g hg
  unfold AdvFrameO
  cases hb : g.body with
  | raw b => trivial
  | ct ivo c =>
    simp only [hb] at this ⊢
    refine ⟨this.1, fun hk => ?_⟩
    rcases this.2 hk with ⟨f, hf, ivo', hfb⟩ | ⟨f, hf, ivo', hfb⟩ | ⟨f, hf, ivo', hfb⟩
    · left
      rw [hsent] at hf
      exact known_of_mem_framesFrom hfb items c0 hf
    · right; left
      rw [hown] at hf
      exact foreign_of_mem_framesFrom hsep hf hfb
    · right; right
      exact ⟨hold.iv_fresh f hf ivo' c hfb hk, hold.transcript_fresh f hf ivo' c hfb hk⟩

/-- The property in one statement. An established session picked up at any counter values; the
    sender's application performs `ops`, the receiving endpoint sends `opsR` of its own; the wire is
    rewritten within `AdvWireS` (the adversary's bytes, the sender's seals, the receiver's own seals
    reflected, seals recorded on earlier connections of the session). Then the payload/end-flag pairs
    `ReceiveFrameWithEnd` accepts, in order, are a prefix of `ops`. Every receive path is a function
    of that list (`deliverFuel_prefix` and its siblings). -/
theorem accepted_prefix_midstream {S S' R R' : Stream} {k : Nat} {iv ivR : IV} {dg dgR rdg : Digest × Digest}
    {c0 cR : Nat} {ops opsR : List SendOp} {sent own old w : List WireFrame}
    (hiv : iv.w0 < 2^32) (hivR : ivR.w0 < 2^32) (hsep : iv.tail ≠ ivR.tail)
    (hS : SendInv S k iv dg c0) (hR : RecvInv R k iv c0 0) (hRs : SendInv R k ivR dgR cR)
    (hrdg : c0 = 0 → (R.dig.fr, R.dig.fs) = rdg) (hold : OldConnections k iv rdg old)
    (hsend : S.sendAll ops = .ok (S', sent)) (hown : R.sendAll opsR = .ok (R', own))
    (hadv : AdvWireS k sent own old w) :
    R.accepted w <+: ops := by
  obtain ⟨items, hsent, rfl, hlim, _, _⟩ := sendAll_spec hS hsend
  obtain ⟨itemsR, hownE, _, _, _, _⟩ := sendAll_spec hRs hown
  exact accepted_prefix (dg := dg) hiv hlim w R 0 (Nat.zero_le _) hR (fun h => ⟨hRs.iv, hivR, hrdg h⟩)
    (advWireS_advFrameO hsep hsent hownE hold hadv)

/-- the same for a fresh session: both endpoints have just installed the key -/
theorem accepted_prefix_fresh {S S' R R' : Stream} {k : Nat} {ivS ivR : IV}
    {ops opsR : List SendOp} {sent own old w : List WireFrame}
    (hivS : ivS.w0 < 2^32) (hivR : ivR.w0 < 2^32) (hsep : ivS.tail ≠ ivR.tail)
    (hold : OldConnections k ivS (R.dig.fr, R.dig.fs) old)
    (hsend : (S.setKey k ivS).sendAll ops = .ok (S', sent))
    (hown : (R.setKey k ivR).sendAll opsR = .ok (R', own))
    (hadv : AdvWireS k sent own old w) :
    (R.setKey k ivR).accepted w <+: ops :=
  accepted_prefix_midstream hivS hivR hsep (setKey_sendInv S k ivS) (setKey_recvInv R k ivR ivS)
    (setKey_sendInv R k ivR) (fun _ => by rw [setKey_fr, setKey_fs]) hold hsend hown hadv

/-- Fresh session. Two endpoints install the same key with their own fresh IVs; the sender's
    application performs any sequence of frame sends `ops` that the sender accepts, the receiving
    endpoint itself sends any `opsR` in the other direction; the adversary rewrites the wire
    arbitrarily within `AdvWire` (its own bytes, the sender's seals, the receiver's own seals
    reflected). Whatever `ReceiveCompleteMessage` hands the receiving application before its first
    error is a prefix of the messages sent, boundaries intact. The one hypothesis about the session:
    the two fresh IVs differ in their last 12 bytes (`hsep`: two independent `crypto/rand` draws;
    `hivS`, `hivR` only say that an IV's leading word is a 32-bit value).
    No hypothesis on the transcript digests is needed: a reflected first frame announces the
    receiver's own base IV, which it refuses (F-C02-reflection). -/
theorem recv_prefix (S S' R R' : Stream) (k : Nat) (ivS ivR : IV) (ops opsR : List SendOp)
    (sent own w : List WireFrame) (hivS : ivS.w0 < 2^32) (hivR : ivR.w0 < 2^32)
    (hsep : ivS.tail ≠ ivR.tail)
    (hsend : (S.setKey k ivS).sendAll ops = .ok (S', sent))
    (hown : (R.setKey k ivR).sendAll opsR = .ok (R', own))
    (hadv : AdvWire k sent own w) (n : Nat) :
    Stream.deliverFuel n (R.setKey k ivR) w <+: messagesOf [] ops :=
  deliverFuel_prefix (accepted_prefix_fresh hivS hivR hsep (oldConnections_nil ..) hsend hown (advWire_advWireS hadv)) n

/-- the same for an established session picked up at any counter values (after earlier traffic, or
    after a crypto-state hand-off, C15): the receiver delivers a prefix of what is sent from here
    on, whatever is replayed, forged or reflected. -/
theorem recv_prefix_midstream (S S' R R' : Stream) (k : Nat) (iv ivR : IV) (dg dgR : Digest × Digest) (c0 cR : Nat)
    (ops opsR : List SendOp) (sent own w : List WireFrame) (hiv : iv.w0 < 2^32) (hivR : ivR.w0 < 2^32)
    (hsep : iv.tail ≠ ivR.tail)
    (hS : SendInv S k iv dg c0) (hR : RecvInv R k iv c0 0) (hRs : SendInv R k ivR dgR cR)
    (hsend : S.sendAll ops = .ok (S', sent)) (hown : R.sendAll opsR = .ok (R', own))
    (hadv : AdvWire k sent own w) (n : Nat) :
    Stream.deliverFuel n R w <+: messagesOf [] ops :=
  deliverFuel_prefix (accepted_prefix_midstream hiv hivR hsep hS hR hRs (fun _ => rfl) (oldConnections_nil ..)
    hsend hown (advWire_advWireS hadv)) n

/-- `recv_prefix` against the adversary that also replays, re-heads and re-IVs frames recorded on
    EARLIER connections of the same session (same key): under the two session hypotheses of
    `OldConnections`, `ReceiveCompleteMessage` still delivers only a prefix of the messages sent on
    THIS connection. Not only the first frame (`C06.replay_rejected`): every position of every
    message. -/
theorem recv_prefix_resumed (S S' R R' : Stream) (k : Nat) (ivS ivR : IV) (ops opsR : List SendOp)
    (sent own old w : List WireFrame) (hivS : ivS.w0 < 2^32) (hivR : ivR.w0 < 2^32)
    (hsep : ivS.tail ≠ ivR.tail)
    (hold : OldConnections k ivS (R.dig.fr, R.dig.fs) old)
    (hsend : (S.setKey k ivS).sendAll ops = .ok (S', sent))
    (hown : (R.setKey k ivR).sendAll opsR = .ok (R', own))
    (hadv : AdvWireS k sent own old w) (n : Nat) :
    Stream.deliverFuel n (R.setKey k ivR) w <+: messagesOf [] ops :=
  deliverFuel_prefix (accepted_prefix_fresh hivS hivR hsep hold hsend hown hadv) n

/-- the prefix guarantee for the OTHER message-level receive path — `StartMessageRead` (→
    `readNextFrame`), `ReadMessageBytes(chunk)` until it reports end-of-message, `EndMessageRead` —
    for every chunk size, every send history whose end flags are the ones the sending API can
    produce (0/1), and every Dolev–Yao rewriting of the wire: what the application is handed before
    the first error is a prefix of the messages sent, boundaries intact. In particular a wire that
    ends (or is cut) inside a multi-frame message yields an error, never the truncated message. -/
theorem recv_prefix_incremental (S S' R R' : Stream) (k : Nat) (ivS ivR : IV) (ops opsR : List SendOp)
    (sent own w : List WireFrame) (hivS : ivS.w0 < 2^32) (hivR : ivR.w0 < 2^32)
    (hsep : ivS.tail ≠ ivR.tail) (hfl : ∀ op ∈ ops, op.2 ≤ 1)
    (hclean : R.inMessage = false) (hbuf : R.recvBuf = [])
    (hsend : (S.setKey k ivS).sendAll ops = .ok (S', sent))
    (hown : (R.setKey k ivR).sendAll opsR = .ok (R', own))
    (hadv : AdvWire k sent own w) (chunk : Nat) (hchunk : 0 < chunk) (fuel : Nat) :
    Stream.deliverIncFuel fuel chunk (R.setKey k ivR) w <+: messagesOf [] ops :=
  deliverIncFuel_prefix (r := R.setKey k ivR) hchunk hfl hbuf
    (accepted_prefix_fresh hivS hivR hsep (oldConnections_nil ..) hsend hown (advWire_advWireS hadv)) fuel

/-- the same from any reachable state of an established session (after earlier traffic, or after a
    crypto-state hand-off, C15). -/
theorem recv_prefix_incremental_midstream (S S' R R' : Stream) (k : Nat) (iv ivR : IV) (dg dgR : Digest × Digest) (c0 cR : Nat)
    (ops opsR : List SendOp) (sent own w : List WireFrame) (hiv : iv.w0 < 2^32) (hivR : ivR.w0 < 2^32)
    (hsep : iv.tail ≠ ivR.tail) (hfl : ∀ op ∈ ops, op.2 ≤ 1)
    (hclean : R.inMessage = false) (hbuf : R.recvBuf = [])
    (hS : SendInv S k iv dg c0) (hR : RecvInv R k iv c0 0) (hRs : SendInv R k ivR dgR cR)
    (hsend : S.sendAll ops = .ok (S', sent)) (hown : R.sendAll opsR = .ok (R', own))
    (hadv : AdvWire k sent own w) (chunk : Nat) (hchunk : 0 < chunk) (fuel : Nat) :
    Stream.deliverIncFuel fuel chunk R w <+: messagesOf [] ops :=
  deliverIncFuel_prefix hchunk hfl hbuf (accepted_prefix_midstream hiv hivR hsep hS hR hRs (fun _ => rfl)
    (oldConnections_nil ..) hsend hown (advWire_advWireS hadv)) fuel

/-- `recv_prefix_resumed` for the incremental API (`StartMessageRead`, `ReadMessageBytes(chunk)`…, `EndMessageRead`) -/
theorem recv_prefix_incremental_resumed (S S' R R' : Stream) (k : Nat) (ivS ivR : IV) (ops opsR : List SendOp)
    (sent own old w : List WireFrame) (hivS : ivS.w0 < 2^32) (hivR : ivR.w0 < 2^32)
    (hsep : ivS.tail ≠ ivR.tail) (hfl : ∀ op ∈ ops, op.2 ≤ 1)
    (hclean : R.inMessage = false) (hbuf : R.recvBuf = [])
    (hold : OldConnections k ivS (R.dig.fr, R.dig.fs) old)
    (hsend : (S.setKey k ivS).sendAll ops = .ok (S', sent))
    (hown : (R.setKey k ivR).sendAll opsR = .ok (R', own))
    (hadv : AdvWireS k sent own old w) (chunk : Nat) (hchunk : 0 < chunk) (fuel : Nat) :
    Stream.deliverIncFuel fuel chunk (R.setKey k ivR) w <+: messagesOf [] ops :=
  deliverIncFuel_prefix (r := R.setKey k ivR) hchunk hfl hbuf
    (accepted_prefix_fresh hivS hivR hsep hold hsend hown hadv) fuel

/-- the frame-level receive path — plain `ReceiveFrame`, on which `GetSecret` and `GetFile` sit and
    which returns no end flag — hands the application only an in-order prefix of the frame PAYLOADS
    the sender's application passed to `sendMessageWithEnd`, under the same adversary: no forged,
    empty, replayed or reflected frame is ever handed over. -/
theorem recv_prefix_frames (S S' R R' : Stream) (k : Nat) (ivS ivR : IV) (ops opsR : List SendOp)
    (sent own w : List WireFrame) (hivS : ivS.w0 < 2^32) (hivR : ivR.w0 < 2^32)
    (hsep : ivS.tail ≠ ivR.tail)
    (hsend : (S.setKey k ivS).sendAll ops = .ok (S', sent))
    (hown : (R.setKey k ivR).sendAll opsR = .ok (R', own))
    (hadv : AdvWire k sent own w) :
    Stream.deliverFrames (R.setKey k ivR) w <+: ops.map Prod.fst :=
  deliverFrames_prefix (k := k) rfl rfl
    (accepted_prefix_fresh hivS hivR hsep (oldConnections_nil ..) hsend hown (advWire_advWireS hadv))

/-- `recv_prefix_resumed` for plain `ReceiveFrame` (GetSecret / GetFile): a prefix of the frame payloads -/
theorem recv_prefix_frames_resumed (S S' R R' : Stream) (k : Nat) (ivS ivR : IV) (ops opsR : List SendOp)
    (sent own old w : List WireFrame) (hivS : ivS.w0 < 2^32) (hivR : ivR.w0 < 2^32)
    (hsep : ivS.tail ≠ ivR.tail)
    (hold : OldConnections k ivS (R.dig.fr, R.dig.fs) old)
    (hsend : (S.setKey k ivS).sendAll ops = .ok (S', sent))
    (hown : (R.setKey k ivR).sendAll opsR = .ok (R', own))
    (hadv : AdvWireS k sent own old w) :
    Stream.deliverFrames (R.setKey k ivR) w <+: ops.map Prod.fst :=
  deliverFrames_prefix (k := k) rfl rfl (accepted_prefix_fresh hivS hivR hsep hold hsend hown hadv)

/-- on a keyed, encrypting stream every frame `ReceiveFrameWithEnd` accepts went through
    `decryptDataWithAAD` — there is no length class (empty frames included) that is returned without
    authentication. -/
theorem no_bypass (r r' : Stream) (k : Nat) (g : WireFrame) (d : Bytes) (fl : Nat)
    (hk : r.key = some k) (he : r.encrypted = true)
    (h : r.recvFrameWithEnd g = .ok (r', d, fl)) :
    ∃ iv, r.openBody k g = .ok (iv, d) :=
  let ⟨_, _, _, iv, hopen, _⟩ := (recvFrameWithEnd_keyed_ok hk he).mp h
  ⟨iv, hopen⟩

/-- the plain `ReceiveFrame` path (GetSecret, GetFile) has no bypass either -/
theorem no_bypass_recvFrame (r r' : Stream) (k : Nat) (g : WireFrame) (d : Bytes)
    (hk : r.key = some k) (he : r.encrypted = true)
    (h : r.recvFrame g = .ok (r', d)) :
    ∃ iv, r.openBody k g = .ok (iv, d) :=
  no_bypass r r' k g d g.flag hk he ((recvFrame_keyed_iff_withEnd hk he).mp h)

/-! Non-vacuity: a concrete two-message exchange meets the hypotheses and is delivered in full;
    with the middle frame dropped only the first message arrives. (These are tests, not the claim.) -/
def ivA : IV := ⟨0xfffffffe, [1,2,3,4,5,6,7,8,9,10,11,12]⟩
def demoSent : List WireFrame :=
  match ((({} : Stream).setKey 7 ivA).sendAll [([1,2], 0), ([3], 1), ([], 1), ([9,9], 1)]) with
  | .ok (_, fs) => fs
  | .error _ => []

example : demoSent.length = 4 := by decide +kernel
example : Stream.deliver (({} : Stream).setKey 7 ⟨5, []⟩) demoSent = [[1,2,3], [], [9,9]] := by decide +kernel
example : Stream.deliver (({} : Stream).setKey 7 ⟨5, []⟩) (demoSent.eraseIdx 1) = [] := by decide +kernel
example : Stream.deliver (({} : Stream).setKey 7 ⟨5, []⟩) (demoSent.eraseIdx 2) = [[1,2,3]] := by decide +kernel
example : Stream.deliver (({} : Stream).setKey 7 ⟨5, []⟩) (demoSent ++ [⟨1, 0, .raw []⟩]) = [[1,2,3], [], [9,9]] := by decide +kernel

-- the incremental API on the same wires: full delivery; a wire cut inside the multi-frame message
-- delivers nothing (never the truncated message); plain ReceiveFrame hands over the payloads
example : Stream.deliverIncFuel 9 2 (({} : Stream).setKey 7 ⟨5, []⟩) demoSent = [[1,2,3], [], [9,9]] := by decide +kernel
example : Stream.deliverIncFuel 9 2 (({} : Stream).setKey 7 ⟨5, []⟩) (demoSent.take 1) = [] := by decide +kernel
example : Stream.deliverIncFuel 9 1 (({} : Stream).setKey 7 ⟨5, []⟩) (demoSent.eraseIdx 2) = [[1,2,3]] := by decide +kernel
example : Stream.deliverFrames (({} : Stream).setKey 7 ⟨5, []⟩) demoSent = [[1,2], [3], [], [9,9]] := by decide +kernel
example : Stream.deliverFrames (({} : Stream).setKey 7 ⟨5, []⟩) (⟨1, 0, .raw []⟩ :: demoSent) = [] := by decide +kernel

/-- F-C02-reflection as a concrete test: on a stream keyed with NOTHING exchanged in clear
    beforehand both transcript digests are the zero digest, so the first-frame AAD is the same in
    both directions; an endpoint's own first frame, reflected with its IV prefix, is refused all
    the same (it announces the endpoint's own base IV). -/
theorem reflection_rejected :
    let A := ({} : Stream).setKey 7 ivA
    (match A.sendAll [([1, 2], 1)] with
     | .ok (_, fs) => Stream.deliver A fs
     | .error _ => [[0]]) = [] := by decide +kernel

/-! ### The typed layer's receive path

`Message.ensureData` / `Message.GetRemainingBytes` pull frames with `ReceiveFrameWithEnd` and end
the message at the first frame whose end flag is non-zero — any of 1..10, not only 1
(`Stream.recvRestAux`). -/

/-- fresh session: under the adversary of `recv_prefix`, what the typed layer's message loop hands
    the application before its first error is a prefix of the messages sent AS THE TYPED LAYER
    DELIMITS THEM (`messagesOfT`: a message ends at the first non-zero end flag), for every send
    history — whatever flags the sender used — and every rewriting of the wire; no forged, replayed,
    re-flagged, reflected or truncated frame ends, extends or starts a message. -/
theorem recv_prefix_typed (S S' R R' : Stream) (k : Nat) (ivS ivR : IV) (ops opsR : List SendOp)
    (sent own w : List WireFrame) (hivS : ivS.w0 < 2^32) (hivR : ivR.w0 < 2^32)
    (hsep : ivS.tail ≠ ivR.tail)
    (hsend : (S.setKey k ivS).sendAll ops = .ok (S', sent))
    (hown : (R.setKey k ivR).sendAll opsR = .ok (R', own))
    (hadv : AdvWire k sent own w) (n : Nat) :
    Stream.deliverRestFuel n (R.setKey k ivR) w <+: messagesOfT [] ops :=
  deliverRestFuel_prefix
    (accepted_prefix_fresh hivS hivR hsep (oldConnections_nil ..) hsend hown (advWire_advWireS hadv)) n

/-- with the end flags the sending API produces (0 / 1) the typed layer's messages are the
    messages sent: the same prefix statement as `recv_prefix`, boundaries intact -/
theorem recv_prefix_typed_01 (S S' R R' : Stream) (k : Nat) (ivS ivR : IV) (ops opsR : List SendOp)
    (sent own w : List WireFrame) (hivS : ivS.w0 < 2^32) (hivR : ivR.w0 < 2^32)
    (hsep : ivS.tail ≠ ivR.tail) (hfl : ∀ op ∈ ops, op.2 ≤ 1)
    (hsend : (S.setKey k ivS).sendAll ops = .ok (S', sent))
    (hown : (R.setKey k ivR).sendAll opsR = .ok (R', own))
    (hadv : AdvWire k sent own w) (n : Nat) :
    Stream.deliverRestFuel n (R.setKey k ivR) w <+: messagesOf [] ops := by
  rw [← messagesOfT_eq_messagesOf ops [] hfl]
  exact recv_prefix_typed S S' R R' k ivS ivR ops opsR sent own w hivS hivR hsep hsend hown hadv n

/-- the same from any reachable state of an established session -/
theorem recv_prefix_typed_midstream (S S' R R' : Stream) (k : Nat) (iv ivR : IV) (dg dgR : Digest × Digest) (c0 cR : Nat)
    (ops opsR : List SendOp) (sent own w : List WireFrame) (hiv : iv.w0 < 2^32) (hivR : ivR.w0 < 2^32)
    (hsep : iv.tail ≠ ivR.tail)
    (hS : SendInv S k iv dg c0) (hR : RecvInv R k iv c0 0) (hRs : SendInv R k ivR dgR cR)
    (hsend : S.sendAll ops = .ok (S', sent)) (hown : R.sendAll opsR = .ok (R', own))
    (hadv : AdvWire k sent own w) (n : Nat) :
    Stream.deliverRestFuel n R w <+: messagesOfT [] ops :=
  deliverRestFuel_prefix (accepted_prefix_midstream hiv hivR hsep hS hR hRs (fun _ => rfl) (oldConnections_nil ..)
    hsend hown (advWire_advWireS hadv)) n

/-- `recv_prefix_resumed` for the typed layer's receive loop -/
theorem recv_prefix_typed_resumed (S S' R R' : Stream) (k : Nat) (ivS ivR : IV) (ops opsR : List SendOp)
    (sent own old w : List WireFrame) (hivS : ivS.w0 < 2^32) (hivR : ivR.w0 < 2^32)
    (hsep : ivS.tail ≠ ivR.tail)
    (hold : OldConnections k ivS (R.dig.fr, R.dig.fs) old)
    (hsend : (S.setKey k ivS).sendAll ops = .ok (S', sent))
    (hown : (R.setKey k ivR).sendAll opsR = .ok (R', own))
    (hadv : AdvWireS k sent own old w) (n : Nat) :
    Stream.deliverRestFuel n (R.setKey k ivR) w <+: messagesOfT [] ops :=
  deliverRestFuel_prefix (accepted_prefix_fresh hivS hivR hsep hold hsend hown hadv) n

/-! Non-vacuity: the typed loop on the demo wire delivers all three messages; with the middle frame
    of the first message dropped, nothing; with the LAST frame's flag rewritten 1 -> 7 by the
    adversary the frame is rejected (the flag is in the AAD), so flags 2..10 cannot be forged into
    message ends; a sender that itself uses flag 7 ends a message there. -/
example : Stream.deliverRestFuel 9 (({} : Stream).setKey 7 ⟨5, []⟩) demoSent = [[1,2,3], [], [9,9]] := by decide +kernel
example : Stream.deliverRestFuel 9 (({} : Stream).setKey 7 ⟨5, []⟩) (demoSent.eraseIdx 1) = [] := by decide +kernel
example : Stream.deliverRestFuel 9 (({} : Stream).setKey 7 ⟨5, []⟩)
    (demoSent.take 3 ++ (demoSent.drop 3).map (fun f => { f with flag := 7 })) = [[1,2,3], []] := by decide +kernel
example : (match ((({} : Stream).setKey 7 ivA).sendAll [([1], 0), ([2], 7), ([3], 1)]) with
    | .ok (_, fs) => Stream.deliverRestFuel 9 (({} : Stream).setKey 7 ⟨5, []⟩) fs
    | .error _ => []) = [[1, 2], [3]] := by decide +kernel

/-! Non-vacuity: an earlier connection of the session (key 7, another base IV, a one-byte cleartext
    exchange, so other digests) whose recorded frames meet `OldConnections`; replayed in front of /
    inside / behind the current connection's frames they are rejected and delivery stops there. -/
def ivOld : IV := ⟨3, [9,9,9,9,9,9,9,9,9,9,9,9]⟩
def oldSent : List WireFrame :=
  match (((({} : Stream).feedRecv [1]).setKey 7 ivOld).sendAll [([5, 5], 1), ([6], 1)]) with
  | .ok (_, fs) => fs
  | .error _ => []
example : oldSent.length = 2 ∧ oldSent.all (fun f => match f.body with
    | .ct _ c => c.key == 7 && c.nonce.tail != ivA.tail && c.aad.digests != some (.zero, .zero)
    | .raw _ => false) = true := by decide +kernel
example : Stream.deliver (({} : Stream).setKey 7 ⟨5, []⟩) (demoSent ++ oldSent) = [[1,2,3], [], [9,9]] := by decide +kernel
example : Stream.deliver (({} : Stream).setKey 7 ⟨5, []⟩) (oldSent ++ demoSent) = [] := by decide +kernel
example : Stream.deliver (({} : Stream).setKey 7 ⟨5, []⟩) (demoSent.take 2 ++ oldSent.drop 1 ++ demoSent.drop 2) = [[1,2,3]] := by decide +kernel

end Cedar.C02
