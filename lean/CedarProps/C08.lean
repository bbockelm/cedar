/-
  C08 — ClassAds survive the wire; decoder shortcuts agree with the full parser.

  Reading of the statement (DESIGN §4 C08):
    * "the expression the full parser assigns to the text": the external parser is a parameter — its
      verdict `pok`, its literal syntax described by `LitGrammar` (tested against classad.ParseExpr on
      every run); a minus sign in front of a numeric literal denotes the negative literal.
    * "consume exactly the same bytes": the three receivers end in the SAME reader state (buffered bytes,
      unread frames, crypto mode), for every frame sequence — well-formed or not.
-/
import CedarProofs.AdWireRound
import CedarProofs.C08Prefix

namespace Cedar.C08

open Cedar

/-- **shortcut_agrees**. For EVERY value text `s` and every behaviour of strconv's range check: if the
    literal fast path of the decoder fires with value `v`, then the external parser's literal syntax
    reads `s` as exactly `v` — booleans in any ASCII case, integers without leading zeros within int64,
    reals `digits . digits [exponent]`, one quoted token free of quotes, backslashes and ill-formed UTF-8. -/
theorem shortcut_agrees (ferr : Bytes → Bool) (s : Bytes) (v : LitVal) (h : tryLit ferr s = some v) :
    LitGrammar v s :=
  tryLit_litCore ferr s v h

/-- **decoded_value**: whatever `parseAndInsertExpression` makes of an expression string `name = text`, the
    attribute is the text before the first '=' (blanks trimmed, non-empty) and its value is
    (a) a literal the parser's syntax assigns to the value text, or
    (b) the parser's own result for the value text, which it accepted, or
    (c) — only when the parser rejected the value text and no shortcut fired — the old-ClassAd reading of a
        lone quoted string. The second `trimSpace` there is the code's: the fallback trims the already
        trimmed value text again (`t := strings.TrimSpace(valueStr)`). -/
theorem decoded_value (ferr pok : Bytes → Bool) (e a : Bytes) (o : Outcome)
    (h : parseAndInsert ferr pok e = .ok (a, o)) :
    ∃ l r, splitEq e = some (l, r) ∧ a = trimSpace l ∧ a ≠ [] ∧
      ((∃ x, o = .lit x ∧ LitGrammar x (trimSpace r)) ∨
       (o = .full (trimSpace r) ∧ pok (trimSpace r) = true ∧ tryLit ferr (trimSpace r) = none) ∨
       (∃ x, o = .old x ∧ pok (trimSpace r) = false ∧ tryLit ferr (trimSpace r) = none ∧
          isQuoted (trimSpace (trimSpace r)) = true ∧ decodeOld (unquote (trimSpace (trimSpace r))) = some x)) := by
  obtain ⟨l, r, hs, ha, hne, hc⟩ := parseAndInsert_spec ferr pok e h
  exact ⟨l, r, hs, ha, hne, hc.imp_left fun ⟨x, ho, ht⟩ => ⟨x, ho, shortcut_agrees ferr _ x ht⟩⟩

/-- **fallback_sound**: the old-style string fallback fires only behind a parser rejection, and never
    where a shortcut fired. -/
theorem fallback_sound (ferr pok : Bytes → Bool) (e a x : Bytes)
    (h : parseAndInsert ferr pok e = .ok (a, .old x)) :
    ∃ l r, splitEq e = some (l, r) ∧ pok (trimSpace r) = false ∧ tryLit ferr (trimSpace r) = none ∧
      decodeOld (unquote (trimSpace (trimSpace r))) = some x := by
  obtain ⟨l, r, hs, _, _, hc⟩ := decoded_value ferr pok e a (.old x) h
  refine ⟨l, r, hs, ?_⟩
  -- only the fallback yields `.old`
  rcases hc with ⟨_, ho, _⟩ | ⟨ho, _⟩ | ⟨y, ho, hp, ht, _, hd⟩ <;> cases ho
  exact ⟨hp, ht, hd⟩

/-- **old_string_roundtrip**: the fallback yields the old-ClassAd reading — for every byte string, its
    old-style quoting (quote written backslash-quote, every other byte, a lone backslash included,
    written as is) is read back exactly. -/
theorem old_string_roundtrip (x : Bytes) : decodeOld (oldRender x) = some x := decodeOld_render x

/-- a rejected expression string is a clean "malformed" error (no other failure class exists) -/
theorem decode_error_class (ferr pok : Bytes → Bool) (e : Bytes) (x : Err)
    (h : parseAndInsert ferr pok e = .error x) : x = .malformed := parseAndInsert_err ferr pok e x h

/-- **receivers_same_bytes**. For EVERY reader state — any buffered bytes, any sequence of frames (cut
    anywhere, well-formed or not), either string mode, with or without a session key: whenever the
    raw-text receiver or the parsing receiver succeeds, the skipping receiver succeeds too and ends in
    the very same reader state; hence all three leave exactly the same bytes unread. This includes the
    in-band secret marker: all three read the field behind it under crypto-for-secret. -/
theorem receivers_same_bytes (ferr pok : Bytes → Bool) (r : Rd) :
    (∀ ad r', r.getRaw = .ok (ad, r') → r.skipAd = .ok r') ∧
    (∀ items r', r.getAd ferr pok = .ok (items, r') → r.skipAd = .ok r') ∧
    (∀ ad items r' r'', r.getRaw = .ok (ad, r') → r.getAd ferr pok = .ok (items, r'') → r' = r'') := by
  have a := r.skipAd_agree_raw
  have b := r.skipAd_agree_ad ferr pok
  refine ⟨fun _ _ => a.ok, fun _ _ => b.ok, fun _ _ _ _ h1 h2 => ?_⟩
  injection (a.ok h1).symm.trans (b.ok h2)

/-- **receivers_fail_together**. For every reader state: if the skipping receiver fails with error `e`,
    the raw-text receiver and the parsing receiver fail too — with `e`, or with "malformed"; conversely,
    if the raw-text or the parsing receiver fails with anything but "malformed", the skipping receiver
    fails with the same error. -/
theorem receivers_fail_together (ferr pok : Bytes → Bool) (r : Rd) (e : Err) :
    (r.skipAd = .error e → (r.getRaw = .error e ∨ r.getRaw = .error .malformed) ∧
                            (r.getAd ferr pok = .error e ∨ r.getAd ferr pok = .error .malformed)) ∧
    (r.getRaw = .error e → e ≠ .malformed → r.skipAd = .error e) ∧
    (r.getAd ferr pok = .error e → e ≠ .malformed → r.skipAd = .error e) :=
  ⟨fun h => ⟨r.skipAd_agree_raw.error_inv h, (r.skipAd_agree_ad ferr pok).error_inv h⟩,
   r.skipAd_agree_raw.error, (r.skipAd_agree_ad ferr pok).error⟩

/-- **wire_layout**: whatever the encoder's flush policy does with frame boundaries, the payload bytes
    PutClassAdRaw / PutClassAdRawBytes emit for an ad of well-formed strings are: the expression count,
    each expression string, MyType, TargetType — in the reference encoding of the current string mode. -/
theorem wire_layout (enc : Bool) (exprs : List Bytes) (my tg : Bytes)
    (hc : exprs.length < 2^63) (hw : ∀ e ∈ exprs, (Val.str e).wf) (hmy : (Val.str my).wf) (htg : (Val.str tg).wf) :
    wireBytes (putAdRaw enc [] exprs my tg) = Spec.encAll enc (adVals exprs my tg) :=
  (wireBytes_putAll enc _ [] (adVals_wf hc hw hmy htg)).trans (List.nil_append _)

/-- **wire_roundtrip**. For every ad whose expression strings and type names are well-formed strings
    (`ExprWF`, `TypeWF`: NUL-free, shorter than 2 GiB, not starting with the byte that stands for the
    null string; an expression not the in-band marker, a type name empty or passing `isTypeName`) and
    whose expression strings all parse (`parseAll`), every list `tail` of typed values that follows the
    ad in the same message, both string modes (plaintext / encrypted streams), with or without a
    session key, and EVERY way `ks` of cutting the message's bytes into frames:
      * GetClassAdRaw returns exactly the sender's expression strings and type names,
      * GetClassAd inserts exactly what `parseAndInsertExpression` makes of each string, in order, then
        the type names — with exactly the sender's attribute names,
      * SkipClassAdRaw succeeds,
    and all three stop in the same state, with exactly the bytes of `tail` left unread. -/
theorem wire_roundtrip (ferr pok : Bytes → Bool) (enc keyed : Bool) (exprs : List Bytes) (items : List Item)
    (my tg : Bytes) (tail : List Val) (ks : List Nat)
    (hc : exprs.length < 2^63) (hw : ∀ e ∈ exprs, ExprWF e) (hmy : TypeWF my) (htg : TypeWF tg)
    (htail : ∀ v ∈ tail, v.wf) (hpa : parseAll ferr pok exprs = .ok items) :
    let r := Rd.fresh enc keyed (cutFrames (wireBytes (putAll enc [] (adVals exprs my tg ++ tail))) ks)
    ∃ r', r.getRaw = .ok (⟨exprs, my, tg⟩, r') ∧
          r.getAd ferr pok = .ok (items ++ typeItems my tg, r') ∧
          r.skipAd = .ok r' ∧
          r'.d.pending = some (Spec.encAll enc tail) ∧
          items.map (·.1) = exprs.map nameOf := by
  intro r
  have hwf : ∀ v ∈ adVals exprs my tg ++ tail, v.wf :=
    List.forall_mem_append.mpr ⟨adVals_wf hc (fun e he => (hw e he).1) hmy.1 htg.1, htail⟩
  have hp : r.d.pending = some (Spec.encAll r.mode (adVals exprs my tg) ++ Spec.encAll enc tail) := by
    show (Rd.fresh enc keyed _).d.pending = _
    rw [Rd.fresh_pending, wireBytes_putAll enc _ [] hwf, Spec.encAll_append]
    rfl
  obtain ⟨d1, h1, hp1⟩ := r.getRaw_spec exprs my tg _ hc hw hmy htg hp
  obtain ⟨d2, h2, _⟩ := r.getAd_spec ferr pok exprs items my tg _ hc hw hmy.1 htg.1 hpa hp
  obtain ⟨hskip, -, hsame⟩ := receivers_same_bytes ferr pok r
  rw [← hsame _ _ _ _ h1 h2] at h2
  exact ⟨_, h1, h2, hskip _ _ h1, hp1, parseAll_names ferr pok exprs items hpa⟩

/-! ## The code before F-C08-shortcuts and F-C08-skip-marker (`C08Prefix`) violates both clauses
    (witnesses = the replays of the findings) -/

/-- before fix F-C08-shortcuts the integer shortcut accepted `007` (as 7), which the parser rejects -/
theorem prefix_shortcut_int_fails : ¬ (∀ s v, Prefix.intShortcut s = some v → LitGrammar v s) := by
  intro h
  have := h [48, 48, 55] (.int 7) (by decide +kernel)
  revert this; decide +kernel

/-- before fix F-C08-shortcuts the string shortcut read `"a" + "b"` as the string `a" + "b` -/
theorem prefix_shortcut_string_fails : ¬ (∀ t v, Prefix.strShortcut t = some v → LitGrammar v t) := by
  intro h
  have := h [34, 97, 34, 32, 43, 32, 34, 98, 34] (.str [97, 34, 32, 43, 32, 34, 98]) (by decide +kernel)
  revert this; decide +kernel

/-- a message on a keyed, non-encrypting stream: one counted expression sent as marker + secret field
    (`A = 1` in the encrypted string format), empty type names, then the integer 77 -/
def secretDemo : Rd :=
  { d := ⟨[], false, [(be64 1 ++ [90, 75, 77, 0], false),
                      (be64 6 ++ [65, 32, 61, 32, 49, 0], false),
                      ([0, 0] ++ be64 77, true)]⟩, mode := false, keyed := true }

/-- before fix F-C08-skip-marker the skipping receiver consumed different bytes than the other two -/
theorem prefix_receivers_same_bytes_fails :
    ¬ (∀ (r : Rd) ad r', r.getRaw = .ok (ad, r') → Prefix.skipAd r = .ok r') := by
  intro h
  have hraw : (match secretDemo.getRaw with | .ok (_, r') => r'.d.buf == be64 77 | .error _ => false) = true := by decide +kernel
  have hskip : (match Prefix.skipAd secretDemo with | .ok r' => r'.d.buf == be64 77 | .error _ => false) = false := by decide +kernel
  cases hg : secretDemo.getRaw with
  | error e => rw [hg] at hraw; cases hraw
  | ok p =>
    obtain ⟨ad, r'⟩ := p
    rw [hg] at hraw
    rw [h secretDemo ad r' hg] at hskip
    simp only at hraw hskip
    rw [hraw] at hskip; cases hskip

/-- … and `skipAd` as it is agrees on the same message -/
example : (match secretDemo.skipAd with | .ok r' => r'.d.buf == be64 77 | .error _ => false) = true := by decide +kernel

/-! ## Non-vacuity (tests): a concrete ad through the whole chain, both modes, a cut inside a value -/

def demoExprs : List Bytes :=
  [[65, 32, 61, 32, 45, 53],                          -- `A = -5`
   [66, 61, 34, 120, 34],                             -- `B="x"`
   [67, 32, 61, 32, 97, 32, 43, 32, 49]]              -- `C = a + 1`
def demoMy : Bytes := [74, 111, 98]                   -- "Job"

example : tryLit (fun _ => false) [45, 53] = some (.int (-5)) := by decide +kernel
example : LitGrammar (.int (-5)) [32, 45, 53, 32] := by decide +kernel
example : litParse [48, 48, 55] = none := by decide +kernel                                    -- `007` is not a literal
example : tryLit (fun _ => false) [48, 48, 55] = none := by decide +kernel                     -- … and no shortcut fires on it
example : tryLit (fun _ => false) [34, 97, 34, 32, 43, 32, 34, 98, 34] = none := by decide +kernel   -- `"a" + "b"` goes to the parser
example : litParse [34, 97, 34, 32, 34, 98, 34] = some (.str [97, 98]) := by decide +kernel    -- `"a" "b"` is the string ab
example : (match (Rd.fresh true false (cutFrames (wireBytes (putAll true [] (adVals demoExprs demoMy [] ++ [.int 77]))) [3, 0, 20])).getRaw with
    | .ok (ad, r') => ad.exprs == demoExprs && ad.myType == demoMy && ad.targetType == [] && r'.d.buf == be64 77
    | .error _ => false) = true := by decide +kernel
example : ((Rd.fresh false true (cutFrames (wireBytes (putAll false [] (adVals demoExprs demoMy [] ++ [.int 77]))) [9])).skipAd).isOk = true := by decide +kernel

end Cedar.C08
