/-
  C05 — The server runs a command only on a session that meets that command's policy.
  The session flags are the handshake's reported outcome; C03 (`*_reported_*_is_real`,
  `*_required_*`) and C06 (`resume_needs_key`) show they equal the connection's real state.
-/
import CedarProofs.DispatchLemmas
import CedarProofs.DecisionsTie
import CedarProps.C03
import CedarProps.C06

namespace Cedar.C05
open Cedar Cedar.HS Cedar.Disp

/-- on one connection, for every sequence of follow-on commands and every
    keep-alive behaviour of the handlers, each handler the authenticated path invokes is registered,
    is not raw, and the session meets that command's CURRENT security level (authentication
    REQUIRED ⇒ authenticated; encryption or integrity REQUIRED ⇒ encrypted) and — when an
    authorizer is configured — the session's identity is currently authorized at one of the
    command's levels. -/
theorem dispatch_sound (s : Server) (sess : Sess) (keep : Nat → Bool) :
    ∀ (rest : List Nat) (cmd : Nat) (c : Nat), Ev.ran c ∈ s.serveAuth sess keep cmd rest →
      ∃ h, s.lookup c = some h ∧ h.raw = false ∧
           levelOK (s.policyFor c) sess.authenticated sess.encrypted = true ∧
           s.authorizedFor c sess.user = true := by
  intro rest cmd c hmem
  obtain ⟨h, hl, hr, hs⟩ := Server.passes_iff.mp (ran_serveAuth hmem)
  exact ⟨h, hl, hr, Server.satisfies_iff.mp hs⟩

theorem levelOK_meaning (p : Policy) (a e : Bool) (h : levelOK (some p) a e = true) :
    (p.auth = lvlRequired → a = true) ∧ ((p.enc = lvlRequired ∨ p.integ = lvlRequired) → e = true) := by
  unfold levelOK at h
  obtain ⟨h1, h⟩ := ite_else_of_ne h nofun
  obtain ⟨h2, _⟩ := ite_else_of_ne h nofun
  exact ⟨fun hp => Bool.of_not_eq_false fun ha => h1 ⟨hp, ha⟩, fun hp => Bool.of_not_eq_false fun he => h2 ⟨hp, he⟩⟩

/-- the raw path invokes only raw handlers. -/
theorem raw_path_only_raw (s : Server) (cmd c : Nat) (h : Ev.ran c ∈ s.serveRaw cmd) :
    ∃ hd, s.lookup c = some hd ∧ hd.raw = true := by
  unfold Server.serveRaw at h
  split at h
  · rename_i hd hl
    by_cases hr : hd.raw = true
    · rw [if_pos hr] at h
      obtain rfl : c = cmd := by simpa using h
      exact ⟨hd, hl, hr⟩
    · rw [if_neg hr] at h; cases List.mem_singleton.mp h
  · cases List.mem_singleton.mp h

/-- the authenticated path invokes only non-raw handlers. -/
theorem auth_path_never_raw (s : Server) (sess : Sess) (keep : Nat → Bool) (rest : List Nat) (cmd c : Nat)
    (h : Ev.ran c ∈ s.serveAuth sess keep cmd rest) : ∃ hd, s.lookup c = some hd ∧ hd.raw = false := by
  obtain ⟨hd, h1, h2, _, _⟩ := dispatch_sound s sess keep rest cmd c h
  exact ⟨hd, h1, h2⟩

/-- an unknown, raw-on-the-authenticated-path or refused command runs no handler
    and closes the connection. (In this two-outcome model every dispatch ends `.closed`; the real
    `ServeConn` has a third handler outcome, `KeepOpen()`, after which it does NOT close — see
    `serveAuthH`, `dispatch_ends` below: a run ends closed unless the LAST handler, having passed
    every check, took ownership of the connection. A refusal always closes.) -/
theorem refuse_closes (s : Server) (sess : Sess) (keep : Nat → Bool) (cmd : Nat) (rest : List Nat)
    (h : s.lookup cmd = none ∨ (∃ hd, s.lookup cmd = some hd ∧ hd.raw = true) ∨ s.satisfies cmd sess = false) :
    s.serveAuth sess keep cmd rest = [.closed] := by
  rw [serveAuth_step, Server.passes_eq_false_iff.mpr h]; rfl

theorem raw_refuse_closes (s : Server) (cmd : Nat)
    (h : s.lookup cmd = none ∨ (∃ hd, s.lookup cmd = some hd ∧ hd.raw = false)) : s.serveRaw cmd = [.closed] := by
  unfold Server.serveRaw
  rcases h with h | ⟨hd, h1, h2⟩
  · simp [h]
  · simp [h1, h2]

/-- the commands advertised after authentication are only commands the
    session could run right now under the dispatch-time check: registered, not raw, the command's
    current level met by the session, AND the session's identity authorized at one of the command's
    levels by the current authorizer (nothing is advertised without an authorizer; a command
    registered with no level is never advertised). -/
theorem valid_commands_sound (s : Server) (sess : Sess) (c : Nat) (h : c ∈ s.validCommands sess) :
    ∃ hd a, (c, hd) ∈ s.handlers ∧ hd.raw = false ∧
          levelOK (s.policyFor c) sess.authenticated sess.encrypted = true ∧
          s.authorizer = some a ∧ hd.perms.any (fun perm => a perm sess.user) = true := by
  unfold Server.validCommands at h
  cases ha : s.authorizer with
  | none => simp [ha] at h
  | some a =>
    simp only [ha, List.mem_map, List.mem_filter] at h
    obtain ⟨⟨c', hd⟩, ⟨hmem, hcond⟩, rfl⟩ := h
    simp only [Bool.and_eq_true, Bool.not_eq_true'] at hcond
    exact ⟨hd, a, hmem, hcond.1.1.1, hcond.1.2, rfl, hcond.2⟩

/-- when the handler table is a map (the entry advertised is the
    one `lookup` finds — `Handle` replaces, never duplicates), every advertised command passes the
    very check the dispatch loop applies (`sessionSatisfies`): the advertisement is never broader
    than what the session can run now. -/
theorem valid_commands_dispatchable (s : Server) (sess : Sess) (c : Nat) (h : c ∈ s.validCommands sess)
    (hmap : ∀ hd, (c, hd) ∈ s.handlers → s.lookup c = some hd) :
    s.satisfies c sess = true := by
  obtain ⟨hd, a, hmem, _, hlv, haz, hany⟩ := valid_commands_sound s sess c h
  refine Server.satisfies_iff.mpr ⟨hlv, ?_⟩
  exact (Server.authorizedFor_some haz (hmap hd hmem)).trans hany

/-- with an authorizer configured, a command registered with no
    permission level is refused for every identity (there is no level the identity could hold). -/
theorem no_level_never_authorized (s : Server) (a : String → String → Bool) (c : Nat) (hd : Handler) (sess : Sess)
    (ha : s.authorizer = some a) (hl : s.lookup c = some hd) (hp : hd.perms = []) :
    s.satisfies c sess = false := by
  rw [Server.satisfies, Server.authorizedFor_some ha hl, hp]
  exact Bool.and_false _

/-- tie T: the level test every theorem above uses, `levelOK`, IS the code
    of `server.commandLevelSatisfied` once the applicable policy object has been selected — for ALL
    level strings and both session flags it equals `CedarGen.Decisions.commandLevelSatisfied`, which
    `tools/gen` (trans.go) translates statement by statement from the Go source on every run. -/
theorem levelOK_is_the_code (p : Policy) (authenticated encrypted : Bool) :
    levelOK (some p) authenticated encrypted =
      CedarGen.Decisions.commandLevelSatisfied p.auth p.enc p.integ authenticated encrypted :=
  Cedar.Tie.levelOK_eq_gen p authenticated encrypted

/-- tie T: the gate every dispatch theorem above goes through,
    `Server.satisfies`, IS the code of `server.sessionSatisfies` for a session that exists: it passes
    exactly when `CedarGen.Decisions.sessionSatisfies` — translated statement by statement from the Go
    source on every run — returns nil, for every verdict of the level test and, when an Authorizer is
    configured, of `authorized` (whose verdict the code does not consult otherwise).  Reordering the
    tests, dropping one, or making the authorization test conditional on something else changes the
    generated definition and breaks this proof. -/
theorem satisfies_is_the_code (s : Server) (cmd : Nat) (sess : Sess) (authorizedNow : Bool)
    (hA : ∀ a, s.authorizer = some a → authorizedNow = s.authorizedFor cmd sess.user) :
    s.satisfies cmd sess =
      ((CedarGen.Decisions.sessionSatisfies false
          (levelOK (s.policyFor cmd) sess.authenticated sess.encrypted)
          s.authorizer.isSome authorizedNow).ret == 0) :=
  Cedar.Tie.satisfies_eq_gen s cmd sess authorizedNow hA

/-- tie T: without a negotiated session the translated code refuses
    (return 1 = "no negotiated session") whatever the other verdicts are. -/
theorem no_session_no_command (l h a : Bool) :
    (CedarGen.Decisions.sessionSatisfies true l h a).ret = 1 :=
  Cedar.Tie.nil_session_refused_gen l h a

example : CedarGen.Decisions.commandLevelSatisfied "REQUIRED" "OPTIONAL" "REQUIRED" true false = false := by decide +kernel
example : CedarGen.Decisions.commandLevelSatisfied "" "PREFERRED" "" false false = true := by decide +kernel

def srv : Server :=
  { handlers := [(7, ⟨false, ["READ"]⟩), (8, ⟨false, ["DAEMON"]⟩), (9, ⟨true, []⟩)],
    policyFor := fun c => if c = 8 then some ⟨lvlRequired, lvlRequired, lvlOptional⟩ else some ⟨lvlOptional, lvlOptional, lvlOptional⟩,
    authorizer := some (fun perm user => perm == "READ" || (perm == "DAEMON" && user == "alice")) }
example : srv.serveAuth ⟨true, true, "alice"⟩ (fun _ => true) 7 [8, 7] = [.ran 7, .ran 8, .ran 7, .closed] := by decide +kernel
example : srv.serveAuth ⟨false, true, "bob"⟩ (fun _ => true) 7 [8, 7] = [.ran 7, .closed] := by decide +kernel
example : srv.serveAuth ⟨true, false, "alice"⟩ (fun _ => true) 7 [8] = [.ran 7, .closed] := by decide +kernel
example : srv.serveAuth ⟨true, true, "alice"⟩ (fun _ => true) 9 [] = [.closed] := by decide +kernel
example : srv.serveRaw 7 = [.closed] ∧ srv.serveRaw 9 = [.ran 9, .closed] := by decide +kernel
example : srv.satisfies 8 ⟨true, true, "bob"⟩ = false ∧
    (CedarGen.Decisions.sessionSatisfies false true true false).ret = 3 ∧
    (CedarGen.Decisions.sessionSatisfies false false true true).ret = 2 ∧
    (CedarGen.Decisions.sessionSatisfies false true false false).ret = 0 := by decide +kernel

/-! ### dispatch_sound over a session that really came out of a handshake

`dispatch_sound` takes the session record as a free parameter. Here the record is the one the
server builds from the outcome of the C03 server machine (`serverFull`) or of the C06 resumption
machine (`serverResume`), and "authenticated" / "encrypted" are replaced by what happened on the
wire in that handshake. -/

/-- how the session a connection is served under came about -/
inductive Origin
  | full (cfg : ServerCfg) (cli : ClientScript) (sid : String) (o : Outcome) (adv : Decision)
         (h : serverFull cfg cli sid = .ok o adv)
  | resumed (cache : SC.Cache) (now : Nat) (sid : SC.Str) (want : Bool) (nonce : Nat) (ra : Bool)
         (c' : SC.Cache) (reply : SC.ResumeReply) (o : SC.ResumeOutcome)
         (h : SC.serverResume cache now sid want nonce ra = (c', reply, some o))

/-- the record `ServeConn` consults (`neg.Authentication`, `neg.Encryption`, `neg.User`) -/
def Origin.sess : Origin → Sess
  | .full _ _ _ o _ _ => ⟨o.reportedAuth, o.reportedEnc, o.user⟩
  | .resumed _ _ _ _ _ _ _ _ o _ => ⟨o.authenticated, o.encrypted, o.user⟩

/-- really authenticated: in THIS handshake one of the server's own listed methods ran to successful
    completion with the peer and yielded the session's identity — or the session resumed is a live
    cache entry that was established authenticated, whose identity is the one reported. -/
def Origin.reallyAuthenticated : Origin → Prop
  | .full cfg cli _ o _ _ => ∃ m ∈ cfg.methods, (m, true) ∈ o.ran ∧ cli.authOK m = some o.user
  | .resumed cache now sid _ _ _ _ _ o _ =>
      ∃ e, cache.get sid = some e ∧ e.expired now = false ∧ e.authenticated = true ∧ o.user = e.user

/-- really encrypted: a session key is installed on the stream (full handshake: `streamKey`, the
    model's ground truth; resumption: the key of the live cache entry — `C06.resumed_connection_protected`
    and `C03.*_traffic_protected` say what that means on the wire). -/
def Origin.reallyKeyed : Origin → Prop
  | .full _ _ _ o _ _ => ∃ k, o.streamKey = some k
  | .resumed cache _ sid _ _ _ _ _ o _ => ∃ k e, cache.get sid = some e ∧ e.key = some k ∧ o.key = some k

theorem origin_flags_real (og : Origin) :
    (og.sess.authenticated = true → og.reallyAuthenticated) ∧ (og.sess.encrypted = true → og.reallyKeyed) := by
  cases og with
  | full cfg cli sid o adv h =>
    have hreal := (C03.server_reported_is_real cfg cli sid o adv h).1
    exact ⟨serverFull_authenticated h, fun he => Option.isSome_iff_exists.mp (hreal.symm.trans he)⟩
  | resumed cache now sid want nonce ra c' reply o h =>
    obtain ⟨e, hg, hx, hks, hok, _, hu, ha, _⟩ := C06.resume_needs_key cache now sid want nonce ra c' reply o h
    obtain ⟨k, hk⟩ := Option.isSome_iff_exists.mp hks
    exact ⟨fun hauth => ⟨e, hg, hx, ha ▸ hauth, hu⟩, fun _ => ⟨k, e, hg, hk, hok.trans hk⟩⟩

/-- on a connection whose session came out of a server handshake (full or
    resumed), for every sequence of follow-on commands and keep-alive behaviours, a handler that runs
    is registered and not raw, and for that command's CURRENT policy `p`:
    authentication REQUIRED ⇒ a method really completed in that handshake with the identity the
    session carries (or the resumed entry was established authenticated);
    encryption or integrity REQUIRED ⇒ a session key is installed on the stream;
    and the identity is authorized for the command when an authorizer is configured. -/
theorem dispatch_sound_real (s : Server) (og : Origin) (keep : Nat → Bool) (rest : List Nat) (cmd c : Nat)
    (hran : Ev.ran c ∈ s.serveAuth og.sess keep cmd rest) :
    ∃ h, s.lookup c = some h ∧ h.raw = false ∧
      (∀ p, s.policyFor c = some p →
         (p.auth = lvlRequired → og.reallyAuthenticated) ∧
         ((p.enc = lvlRequired ∨ p.integ = lvlRequired) → og.reallyKeyed)) ∧
      s.authorizedFor c og.sess.user = true := by
  obtain ⟨h, hl, hr, hlv, haz⟩ := dispatch_sound s og.sess keep rest cmd c hran
  refine ⟨h, hl, hr, fun p hp => ?_, haz⟩
  rw [hp] at hlv
  obtain ⟨h1, h2⟩ := levelOK_meaning p _ _ hlv
  exact ⟨fun hq => (origin_flags_real og).1 (h1 hq), fun hq => (origin_flags_real og).2 (h2 hq)⟩

/-! Non-vacuity: a full handshake of a server with CLAIMTOBE against a client that really runs it,
    then commands 7, 8 (auth+enc REQUIRED), 7 — all run. -/
private def cliDemo : ClientScript :=
  { auth := lvlRequired, enc := lvlRequired, methods := ["CLAIMTOBE"], ciphers := ["AES"], key := .good 1,
    masks := [2], authOK := fun m => if m = "CLAIMTOBE" then some "alice" else none }
private def cfgDemo : ServerCfg :=
  { auth := lvlRequired, enc := lvlRequired, integ := lvlOptional, methods := ["CLAIMTOBE"], ciphers := ["AES"] }
private def outDemo : Outcome :=
  { reportedAuth := true, reportedEnc := true, reportedMethod := "CLAIMTOBE", user := "alice", sid := "sid",
    validCommands := "", streamKey := some (sharedKey 2 1), ran := [("CLAIMTOBE", true)] }
private theorem demoFull : serverFull cfgDemo cliDemo "sid" = .ok outDemo ⟨"CLAIMTOBE", "AES", true, true⟩ := by rfl
private def ogFull : Origin := .full cfgDemo cliDemo "sid" outDemo _ demoFull
private def ogResumed : Origin :=
  .resumed C06.cache0 1000 "s1".toList true 5 false (SC.serverResume C06.cache0 1000 "s1".toList true 5 false).1
    (.authorized 5) ⟨"alice", true, true, some 7⟩ (by rfl)
example : srv.serveAuth ogFull.sess (fun _ => true) 7 [8, 7] = [.ran 7, .ran 8, .ran 7, .closed] := by decide +kernel
example : srv.serveAuth ogResumed.sess (fun _ => true) 7 [8] = [.ran 7, .ran 8, .closed] := by decide +kernel

theorem serveAuthH_eq (s : Server) (sess : Sess) (res : Nat → HRes) (hno : ∀ c, res c ≠ .keepOpen) :
    ∀ (rest : List Nat) (cmd : Nat),
      s.serveAuthH sess res cmd rest = s.serveAuth sess (fun c => res c == .keepAlive) cmd rest := by
  intro rest cmd
  have : res = fun c => .ofKeep (res c == .keepAlive) := by
    funext c
    cases h : res c with
    | keepOpen => exact absurd h (hno c)
    | _ => rfl
  rw [← serveAuthH_ofKeep, ← this]

/-- `dispatch_sound` for the three-outcome loop, ownership transfer (`KeepOpen()`) included. -/
theorem dispatch_sound_H (s : Server) (sess : Sess) (res : Nat → HRes) :
    ∀ (rest : List Nat) (cmd : Nat) (c : Nat), Ev.ran c ∈ s.serveAuthH sess res cmd rest →
      ∃ h, s.lookup c = some h ∧ h.raw = false ∧ s.satisfies c sess = true :=
  fun _ _ _ hmem => Server.passes_iff.mp (ran_serveAuthH hmem)

/-- how a dispatch ends, three-outcome loop: with the connection closed by the
    server — or, the one exception, with a handler that had passed every check returning
    `KeepOpen()` (it owns the connection from then on). -/
theorem dispatch_ends (s : Server) (sess : Sess) (res : Nat → HRes) :
    ∀ (rest : List Nat) (cmd : Nat),
      (s.serveAuthH sess res cmd rest).getLast? = some .closed ∨
      ∃ c, (s.serveAuthH sess res cmd rest).getLast? = some (.ran c) ∧ res c = .keepOpen := by
  intro rest cmd
  induction cmd, rest using rest_induction with
  | step cmd rest ih =>
    rw [serveAuthH_step]
    split
    · cases hres : res cmd with
      | done => exact .inl rfl
      | keepOpen => exact .inr ⟨cmd, rfl, hres⟩
      | keepAlive =>
        cases rest with
        | nil => exact .inl rfl
        | cons next rest' =>
          -- the run goes on, and ends as the rest of it does
          rw [afterRun, List.getLast?_cons_of_ne_nil (serveAuthH_ne_nil s sess res next rest')]
          exact ih next rest' rfl
    · exact .inl rfl

theorem refuse_closes_H (s : Server) (sess : Sess) (res : Nat → HRes) (cmd : Nat) (rest : List Nat)
    (h : s.lookup cmd = none ∨ (∃ hd, s.lookup cmd = some hd ∧ hd.raw = true) ∨ s.satisfies cmd sess = false) :
    s.serveAuthH sess res cmd rest = [.closed] := by
  rw [serveAuthH_step, Server.passes_eq_false_iff.mpr h]; rfl

example : srv.serveAuthH ⟨true, true, "alice"⟩ (fun c => if c = 8 then .keepOpen else .keepAlive) 7 [8, 7] = [.ran 7, .ran 8] := by decide +kernel
example : srv.serveAuthH ⟨false, true, "bob"⟩ (fun _ => .keepOpen) 8 [] = [.closed] := by decide +kernel
example : srv.serveRawH (fun _ => .keepOpen) 9 = [.ran 9] ∧ srv.serveRawH (fun _ => .keepOpen) 7 = [.closed] := by decide +kernel

/-! ### reconfiguration DURING a connection

`dispatch_sound` fixes the server for the whole connection.  A kept-alive connection can outlive a
reconfiguration (a level raised, a permission revoked); the property speaks of the command's CURRENT
policy, so each follow-on command must be judged by the server in force when it arrives —
a verdict reached earlier on the same connection must not be remembered.  `serveAuthSw s1 s2 … n`
is the loop whose first `n` commands arrive under `s1` and the rest under `s2`. -/

theorem switch_none (s : Server) (sess : Sess) (keep : Nat → Bool) :
    ∀ (n cmd : Nat) (rest : List Nat), serveAuthSw s s sess keep n cmd rest = s.serveAuth sess keep cmd rest := by
  intro n
  induction n with
  | zero => intro cmd rest; rfl
  | succ n ih =>
    intro cmd rest
    rw [serveAuthSw_step, serveAuth_step, afterRun_congr _ fun next rest' _ => ih next rest']

/-- everything run from the switch on meets `s2`, whatever ran before. -/
theorem switch_after (s1 s2 : Server) (sess : Sess) (keep : Nat → Bool) (cmd : Nat) (rest : List Nat) (c : Nat)
    (h : Ev.ran c ∈ serveAuthSw s1 s2 sess keep 0 cmd rest) :
    ∃ hd, s2.lookup c = some hd ∧ hd.raw = false ∧
      levelOK (s2.policyFor c) sess.authenticated sess.encrypted = true ∧ s2.authorizedFor c sess.user = true :=
  dispatch_sound s2 sess keep rest cmd c h

theorem switch_before_step (s1 s2 : Server) (sess : Sess) (keep : Nat → Bool) (n cmd : Nat) (rest : List Nat)
    (c : Nat) (tl : List Ev) (h : serveAuthSw s1 s2 sess keep (n+1) cmd rest = Ev.ran c :: tl) :
    c = cmd ∧
    (∃ hd, s1.lookup c = some hd ∧ hd.raw = false ∧ s1.satisfies c sess = true) ∧
    (tl = [.closed] ∨ ∃ next rest', rest = next :: rest' ∧ tl = serveAuthSw s1 s2 sess keep n next rest') := by
  rw [serveAuthSw_step] at h
  split at h
  · cases h
    refine ⟨rfl, Server.passes_iff.mp ‹_›, ?_⟩
    cases keep cmd
    · exact .inl rfl
    · cases rest
      · exact .inl rfl
      · exact .inr ⟨_, _, rfl, rfl⟩
  · cases h

example : serveAuthSw srv { srv with authorizer := some (fun _ _ => false) } ⟨true, true, "alice"⟩ (fun _ => true) 2 7 [8, 7, 7]
    = [.ran 7, .ran 8, .closed] ∧
    serveAuthSw srv srv ⟨true, true, "alice"⟩ (fun _ => true) 2 7 [8, 7, 7] = [.ran 7, .ran 8, .ran 7, .ran 7, .closed] := by decide +kernel

/-- a reconfiguration that takes effect only after the last command of the connection
    has arrived changes nothing: the run is `s1`'s. -/
theorem switch_late (s1 s2 : Server) (sess : Sess) (keep : Nat → Bool) :
    ∀ (n cmd : Nat) (rest : List Nat), rest.length < n →
      serveAuthSw s1 s2 sess keep n cmd rest = s1.serveAuth sess keep cmd rest := by
  intro n
  induction n with
  | zero => intro cmd rest h; cases h
  | succ n ih =>
    intro cmd rest h
    rw [serveAuthSw_step, serveAuth_step, afterRun_congr _ fun next rest' hr =>
      ih next rest' (by subst hr; exact Nat.lt_of_succ_lt_succ h)]

/-- whatever the moment of the switch, every handler that runs is admitted by one of
    the two configurations (`switch_before_step` / `switch_after` say which one). -/
theorem switch_sound (s1 s2 : Server) (sess : Sess) (keep : Nat → Bool) :
    ∀ (n cmd : Nat) (rest : List Nat) (c : Nat), Ev.ran c ∈ serveAuthSw s1 s2 sess keep n cmd rest →
      (∃ hd, s1.lookup c = some hd ∧ hd.raw = false ∧ s1.satisfies c sess = true) ∨
      (∃ hd, s2.lookup c = some hd ∧ hd.raw = false ∧
        levelOK (s2.policyFor c) sess.authenticated sess.encrypted = true ∧ s2.authorizedFor c sess.user = true) := by
  intro n
  induction n with
  | zero => intro cmd rest c h; exact Or.inr (switch_after s1 s2 sess keep cmd rest c h)
  | succ n ih =>
    intro cmd rest c h
    rw [serveAuthSw_step] at h
    rcases ran_step h with ⟨rfl, hp⟩ | ⟨next, rest', _, hm⟩
    · exact .inl (Server.passes_iff.mp hp)
    · exact ih next rest' c hm

end Cedar.C05
