/-
  C01 — Framed messages round-trip byte-exactly under any chunking, plain or encrypted.
-/
import CedarProofs.Roundtrip
import CedarProofs.Buffered
import CedarProofs.CodecFits

namespace Cedar.C01

open Cedar

/-- byte level, cleartext frames: a frame the sender may emit parses back to itself, leaving the
    rest of the byte stream untouched -/
theorem frame_roundtrip (flag : Nat) (p r : Bytes) (hf : flag ≤ maxEndFlag)
    (hp : p.length ≤ maxMessageSize) :
    decodeRawFrame (encodeRawFrame flag p ++ r) = .ok (flag, p, r) := by
  rw [decodeRawFrame, encodeRawFrame, List.append_assoc,
    parseHdr_hdrBytes (Nat.lt_of_le_of_lt hf (by decide)) (Nat.lt_of_le_of_lt hp (by decide))]
  dsimp only
  rw [if_neg (Nat.not_lt.mpr hp), if_neg (Nat.not_lt.mpr hf),
    if_neg (Nat.not_lt.mpr (List.length_append ▸ Nat.le_add_right ..)), List.take_left' rfl, List.drop_left' rfl]

/-- the 16/32-byte band (F-C01-gcm-overhead): whatever state the stream is in, plaintext or
    encrypting, first protected frame or later, a frame that `sendMessageWithEnd` accepts passes
    the receiver's header checks: its wire length, GCM tag and IV included, is within the limit. -/
theorem send_accept_recv_accept (s s' : Stream) (data : Bytes) (flag : Nat) (f : WireFrame)
    (hfl : flag ≤ 1) (h : s.sendFrame data flag = .ok (s', f)) :
    checkHdr f = .ok () ∧ f.len = f.body.wireLen ∧ f.flag = flag :=
  sendFrame_passes_checkHdr hfl h

/-- on a plaintext stream, whatever sequence of frame sends the sender accepts (any sizes, any cut of
    messages into partial frames, any number of messages), the receiver's `ReceiveCompleteMessage`
    loop returns exactly the messages sent — same bytes, same boundaries, nothing extra. -/
theorem messages_roundtrip_plain (S S' R : Stream) (ops : List SendOp) (sent : List WireFrame)
    (hS : S.crypting = false) (hR : R.crypting = false) (hfl : ∀ op ∈ ops, op.2 ≤ 1)
    (hsend : S.sendAll ops = .ok (S', sent)) :
    R.deliver sent = messagesOf [] ops :=
  deliver_eq (accepted_sendAll_plain ops S S' R sent hS hR hfl hsend) hfl

/-- the same on an AES-GCM stream — both ends installed the key after seeing the same cleartext (their
    digests agree); sizes are whatever the sender accepts, in particular up to the limit minus the
    16/32 bytes of overhead. The two endpoints' fresh base IVs differ (`hne`, two independent
    `crypto/rand` draws): a receiver refuses a first frame that announces its own IV
    (F-C02-reflection). -/
theorem messages_roundtrip_encrypted (S S' R : Stream) (k : Nat) (ivS ivR : IV) (ops : List SendOp)
    (sent : List WireFrame) (hdig : (R.dig.fr, R.dig.fs) = (S.dig.fs, S.dig.fr)) (hne : ivS ≠ ivR)
    (hfl : ∀ op ∈ ops, op.2 ≤ 1)
    (hsend : (S.setKey k ivS).sendAll ops = .ok (S', sent)) :
    (R.setKey k ivR).deliver sent = messagesOf [] ops :=
  messages_roundtrip_midstream (setKey_sendInv S k ivS) (setKey_recvInv R k ivR ivS)
    (fun _ => ⟨by rw [setKey_fr, setKey_fs]; exact hdig, hne⟩) hfl hsend

/-- `WriteMessage` only ever emits through `sendMessageWithEnd`, and the frame it emits carries the
    bytes buffered so far (plaintext streams). -/
theorem write_emits_buffer (s s' : Stream) (d : Bytes) (fs : List WireFrame)
    (hS : s.crypting = false) (h : s.writeMessage d = .ok (s', fs)) :
    (fs = [] ∧ s'.sendBuf = s.sendBuf ++ d) ∨
    (fs = [⟨0, (s.sendBuf ++ d).length, .raw (s.sendBuf ++ d)⟩] ∧ s'.sendBuf = []) := by
  obtain ⟨_, ⟨_, rfl, rfl⟩ | ⟨_, s1, f, hsf, rfl, rfl⟩⟩ := writeMessage_ok.mp h
  · exact .inl ⟨rfl, rfl⟩
  · obtain ⟨_, rfl, _⟩ := (sendFrame_plain_ok (s := { s with sendBuf := s.sendBuf ++ d }) hS).mp hsf
    exact .inr ⟨rfl, rfl⟩

/-- the buffered writer composed with the round trip. Any sequence of messages, each assembled by
    `StartMessage`, any number of `WriteMessage` calls of any sizes (flushing a partial frame
    whenever 4 KiB are buffered) and `EndMessage`, all accepted by the sender on a plaintext stream,
    is returned by the receiver's `ReceiveCompleteMessage` loop as exactly one message per
    `EndMessage`: the concatenation of that message's writes. -/
theorem buffered_roundtrip_plain (S S' R : Stream) (msgs : List (List Bytes)) (sent : List WireFrame)
    (hS : S.crypting = false) (hR : R.crypting = false)
    (hsend : S.sendBufferedAll msgs = .ok (S', sent)) :
    R.deliver sent = msgs.map List.flatten := by
  obtain ⟨ops, t, hfl, hs, -, hm⟩ := sendBufferedAll_spec ((withSend_self S).symm ▸ hsend)
  rw [← hm]
  exact messages_roundtrip_plain S t R ops sent hS hR hfl hs

/-- the same on an AES-GCM stream (hypotheses as in `messages_roundtrip_encrypted`) -/
theorem buffered_roundtrip_encrypted (S S' R : Stream) (k : Nat) (ivS ivR : IV) (msgs : List (List Bytes))
    (sent : List WireFrame) (hdig : (R.dig.fr, R.dig.fs) = (S.dig.fs, S.dig.fr)) (hne : ivS ≠ ivR)
    (hsend : (S.setKey k ivS).sendBufferedAll msgs = .ok (S', sent)) :
    (R.setKey k ivR).deliver sent = msgs.map List.flatten := by
  obtain ⟨ops, t, hfl, hs, -, hm⟩ := sendBufferedAll_spec ((withSend_self (S.setKey k ivS)).symm ▸ hsend)
  rw [← hm]
  exact messages_roundtrip_encrypted S t R k ivS ivR ops sent hdig hne hfl hs

/-- a frame whose payload is within the typed layer's per-mode bound (`MaxFrameSize`, minus 32 bytes
    of AES-GCM room on an encrypting stream) is always accepted by `sendMessageWithEnd` — so the
    typed layer's own splitting (`Fits`, `typed_values_fit`) never produces a frame the sender (or,
    by `send_accept_recv_accept`, the receiver) rejects for its size. -/
theorem typed_frame_accepted (s : Stream) (data : Bytes) (flag : Nat)
    (hlen : data.length ≤ maxFramePayload s.crypting) (hctr : s.encCtr ≠ counterLimit) :
    ∃ s' f, s.sendFrame data flag = .ok (s', f) :=
  let ⟨s', f, h, _⟩ := sendFrame_fits s data flag hlen hctr
  ⟨s', f, h⟩

/-- `PutStringBytes` of a NUL-free string of ANY length — the branch for strings that fit a frame and
    the ≥ 1 MiB branch that writes the length prefix, streams the bytes and then the NUL through two
    `PutBytes` calls — puts exactly the reference encoding on the wire (on an encrypting stream:
    8-byte length = len+1, the bytes, the NUL), after whatever was buffered, however the frames are
    cut. -/
theorem typed_strbytes_any_length (enc : Bool) (buf s : Bytes) (hnz : ∀ b ∈ s, b ≠ 0) (hlen : s.length + 1 < 2^64) :
    wireBytes (putStringBytesL enc buf s) = buf ++ Spec.enc enc (.str s) :=
  wireBytes_putStringBytes enc buf s hnz hlen

/-- `PutBytes` of any length (split across frames above the frame payload limit) puts exactly the
    bytes on the wire after whatever was buffered. -/
theorem typed_bytes_any_length (enc : Bool) (buf data : Bytes) :
    wireBytes (putBytes enc buf data) = buf ++ data :=
  wireBytes_putBytes enc buf data

/-- `GetRemainingBytes` returns exactly the bytes of the message not yet consumed — any number of
    them, in any cut into frames (empty frames included) — and leaves the message exhausted; a
    connection that ends before the end-of-message frame is an error. -/
theorem typed_rest_any_length (d : Dec) :
    (∀ B, d.pending = some B → ∃ d', d.getRemaining = .ok (B, d') ∧ d'.pending = some []) ∧
    (d.pending = none → d.getRemaining = .error .eof) :=
  ⟨fun B h => getRemaining_spec d B h, getRemaining_truncated d⟩

/-! Non-vacuity (tests, not the claim): an encrypted send is accepted; the sizes the band is made of. -/
example : ((({} : Stream).setKey 1 ⟨0, []⟩).sendFrame (List.replicate 10 0) 1).isOk = true := by decide +kernel
example : maxMessageSize = 1048576 ∧ tagLen = 16 ∧ ivLen = 16 := by decide +kernel

/-- the application's read loop: `ReadMessageBytes(n)` until it reports the end of the message -/
def readLoop : Nat → Stream → Nat → Bytes → Except Err (Stream × Bytes)
  | 0, s, _, acc => .ok (s, acc)
  | fuel + 1, s, n, acc =>
    match s.readMessageBytes n with
    | .error .eom => .ok (s, acc)
    | .error e => .error e
    | .ok (s', d) => readLoop fuel s' n (acc ++ d)

theorem readLoop_eq : ∀ (fuel : Nat) (s : Stream) (n : Nat) (acc : Bytes),
    readLoop fuel s n acc = Stream.readAll fuel s n acc
  | 0, _, _, _ => rfl
  | fuel + 1, s, n, acc => by
    unfold readLoop Stream.readAll
    simp only [readLoop_eq fuel]
    split <;> simp only [*]

theorem readLoop_all : ∀ (fuel : Nat) (s : Stream) (n : Nat) (acc : Bytes),
    0 < n → s.inMessage = true → s.bytesRead ≤ s.recvBuf.length → s.recvBuf.length - s.bytesRead < fuel →
    readLoop fuel s n acc = .ok ({ s with bytesRead := s.recvBuf.length }, acc ++ s.recvBuf.drop s.bytesRead)
  | fuel, s, n, acc, hn, hin, hle, hf => by rw [readLoop_eq]; exact readAll_reads_rest fuel s n acc hn hin hle hf

/-- on any stream (plain or encrypted, any state) and any wire, if `ReceiveCompleteMessage` would
    return `msg`, then `StartMessageRead` + `ReadMessageBytes(n)` until end-of-message +
    `EndMessageRead` hands the application exactly `msg`, for every chunk size `n`, consumes the
    same frames, and leaves the stream clean for the next message. -/
theorem incremental_equals_complete (s s1 : Stream) (w w' : List WireFrame) (msg : Bytes) (n : Nat)
    (hn : 0 < n) (hclean : s.inMessage = false) (hb : s.recvBuf = [])
    (h : s.recvComplete w = .ok (s1, msg, w')) :
    ∃ s2 s3 s4, s.startMessageRead w = .ok (s2, w') ∧
      readLoop (msg.length + 1) s2 n [] = .ok (s3, msg) ∧
      s3.endMessageRead = .ok s4 ∧
      s4 = { s1 with recvBuf := [], totalMsg := 0, bytesRead := 0, inMessage := false } := by
  have hrn := readNextFrame_eq_complete (n := s.bytesRead) (t := s.totalMsg) (i := s.inMessage) w s [] h
  rw [← hb, withRd_self] at hrn
  let s2 : Stream := { s1 with recvBuf := msg, totalMsg := msg.length, inMessage := true, bytesRead := 0 }
  refine ⟨s2, { s2 with bytesRead := msg.length },
    { s1 with recvBuf := [], totalMsg := 0, bytesRead := 0, inMessage := false }, ?_, ?_, ?_, rfl⟩
  · exact startMessageRead_ok.mpr ⟨hclean, _, hrn, rfl⟩
  · rw [readLoop_all (msg.length + 1) s2 n [] hn rfl (Nat.zero_le _) (Nat.lt_succ_self _)]
    rfl
  · exact endMessageRead_of_consumed rfl (Nat.le_refl msg.length)

-- non-vacuity (tests): three buffered messages (two writes; no write at all; one write) are accepted
-- and delivered as three messages, plain and encrypted
example : (match ({} : Stream).sendBufferedAll [[[1, 2], [3]], [], [[9]]] with
    | .ok (_, fs) => Stream.deliver {} fs
    | .error _ => []) = [[1, 2, 3], [], [9]] := by decide +kernel
example : (match (({} : Stream).setKey 7 ⟨5, [1]⟩).sendBufferedAll [[[1, 2], [3]], [], [[9]]] with
    | .ok (_, fs) => Stream.deliver (({} : Stream).setKey 7 ⟨6, [2]⟩) fs
    | .error _ => []) = [[1, 2, 3], [], [9]] := by decide +kernel

/-- the buffered writer composed with the incremental receive API. The frames of ONE buffered message
    (`StartMessage`, any writes, `EndMessage`; plaintext), read by `StartMessageRead`,
    `ReadMessageBytes(n)` until end-of-message and `EndMessageRead`, yield exactly the concatenation
    of the writes, for every chunk size `n`. -/
theorem buffered_incremental_plain (S S' R : Stream) (ws : List Bytes) (sent : List WireFrame) (n : Nat)
    (hn : 0 < n) (hS : S.crypting = false) (hR : R.crypting = false)
    (hclean : R.inMessage = false) (hb : R.recvBuf = [])
    (hsend : S.sendBuffered ws = .ok (S', sent)) :
    ∃ rest r2 r3 r4, R.startMessageRead sent = .ok (r2, rest) ∧
      readLoop (ws.flatten.length + 1) r2 n [] = .ok (r3, ws.flatten) ∧ r3.endMessageRead = .ok r4 := by
  obtain ⟨ops, t, hfl, hs, _, hm⟩ := sendBuffered_spec ((withSend_self S).symm ▸ hsend)
  obtain rfl := accepted_sendAll_plain ops S t R sent hS hR hfl hs
  have hm := hm []
  rw [List.append_nil] at hm
  obtain ⟨r1, rest, hok, _⟩ := recvCompleteAux_of_message sent R [] hfl hm
  obtain ⟨s2, s3, s4, h1, h2, h3, _⟩ := incremental_equals_complete R r1 sent rest ws.flatten n hn hclean hb hok
  exact ⟨rest, s2, s3, s4, h1, h2, h3⟩

/-! ### "the typed-message layer accepts values of any length, splitting them across frames itself"

`typed_frame_accepted` says a frame WITHIN the per-mode bound is accepted; here, every frame the
chunking putters produce is within the bound, for values of ANY length. -/

/-- for data / strings of any length and any buffer within the bound, every frame flushed by
    `PutBytes`, `PutString`, `PutStringBytes`, and the buffer left behind, is at most
    `maxFramePayload enc` bytes; likewise for any sequence of values. -/
theorem typed_values_fit (enc : Bool) (buf : Bytes) (hb : buf.length ≤ maxFramePayload enc) :
    (∀ data, Fits enc (putBytes enc buf data)) ∧ (∀ s, Fits enc (putString enc buf s)) ∧
    (∀ s, Fits enc (putStringBytesL enc buf s)) ∧ (∀ s, Fits enc (putStringBytes enc buf s)) ∧
    (∀ vs, Fits enc (putAll enc buf vs)) :=
  ⟨fun d => fits_putBytes enc buf d hb, fun s => fits_putString enc buf s hb,
   fun s => fits_putStringBytesL enc buf s hb, fun s => fits_putStringBytes enc buf s hb,
   fun vs => fits_putAll enc vs buf hb⟩

/-- the frame sends a finished typed message denotes: each flushed frame as a partial frame (end
    flag 0), then `FinishMessage`'s buffer as the end-of-message frame (flag 1) -/
def typedOps (r : PutRes) : List SendOp := r.2.map (fun f => (f.1, 0)) ++ [(r.1, 1)]

/-- whatever the typed layer produced within the bound (`Fits`): every frame of the finished message is
    accepted by `sendMessageWithEnd` on a stream in the same crypto mode (with counter room for
    them), and each resulting wire frame passes the receiver's header validation. -/
theorem typed_any_value_accepted (s : Stream) (r : PutRes) (hr : Fits s.crypting r)
    (hctr : s.encCtr + (r.2.length + 1) ≤ counterLimit) :
    ∃ s' sent, s.sendAll (typedOps r) = .ok (s', sent) ∧ sent.length = r.2.length + 1 ∧
      ∀ f ∈ sent, checkHdr f = .ok () ∧ f.len = f.body.wireLen := by
  have hlen : (typedOps r).length = r.2.length + 1 := by simp [typedOps]
  obtain ⟨s', sent, h1, h2, h3⟩ := sendAll_fits (typedOps r) s
    (List.forall_mem_append.mpr ⟨List.forall_mem_map.mpr fun f hf => ⟨hr.1 f hf, Nat.zero_le 1⟩,
      List.forall_mem_singleton.mpr ⟨hr.2, Nat.le_refl 1⟩⟩) (by rw [hlen]; exact hctr)
  exact ⟨s', sent, h1, by rw [h2, hlen], h3⟩

/-- so for ANY list of values (strings of any length included) encoded from an empty buffer, however
    many frames the splitting produced -/
theorem typed_putAll_accepted (s : Stream) (vs : List Val)
    (hctr : s.encCtr + ((putAll s.crypting [] vs).2.length + 1) ≤ counterLimit) :
    ∃ s' sent, s.sendAll (typedOps (putAll s.crypting [] vs)) = .ok (s', sent) ∧
      ∀ f ∈ sent, checkHdr f = .ok () ∧ f.len = f.body.wireLen := by
  obtain ⟨s', sent, h1, _, h3⟩ := typed_any_value_accepted s _ (fits_putAll s.crypting vs [] (by simp)) hctr
  exact ⟨s', sent, h1, h3⟩

theorem typed_strbytes_accepted (s : Stream) (str : Bytes)
    (hctr : s.encCtr + ((putStringBytesL s.crypting [] str).2.length + 1) ≤ counterLimit) :
    ∃ s' sent, s.sendAll (typedOps (putStringBytesL s.crypting [] str)) = .ok (s', sent) ∧
      ∀ f ∈ sent, checkHdr f = .ok () ∧ f.len = f.body.wireLen := by
  obtain ⟨s', sent, h1, _, h3⟩ := typed_any_value_accepted s _ (fits_putStringBytesL s.crypting [] str (by simp)) hctr
  exact ⟨s', sent, h1, h3⟩

/-- non-vacuity: a 3-frame split on an encrypting stream (a scaled-down instance: `decide` cannot
    walk a megabyte; the theorem covers the real sizes) and the Fits hypotheses on small inputs -/
example : Fits true (putString true [1, 2] [65, 66]) := fits_putString true [1, 2] [65, 66] (by decide)
example : (typedOps ([9], [([1, 2], false), ([3], false)])).length = 3 := by decide +kernel
example : ((({} : Stream).setKey 1 ⟨0, []⟩).sendAll (typedOps ([9], [([1, 2], false), ([3], false)]))).isOk = true := by decide +kernel

/-! ### the length prefix of an encrypted string is an int32

`typed_strbytes_any_length` / `strbytes_layout` assume `len + 1 < 2^64`, the range of the model's
8-byte prefix. The Go code writes `PutInt32(int32(length))` (message.go PutString/PutStringBytes):
the low 32 bits, sign-extended. The honest bound is `2^31`. -/

/-- what `PutInt32(ctx, int32(length))` puts on the wire for a Go `int` length `n` -/
def goLenPrefix (n : Nat) : Bytes := be64 (toU64 (toI32 (n : Int)))

theorem goLenPrefix_small (n : Nat) (h : n < 2^31) : goLenPrefix n = be64 n := by
  unfold goLenPrefix
  rw [toI32_small n h, toU64_nat n (by omega)]

/-- the true bound: for a NUL-free string with `len + 1 < 2^31`, `PutStringBytes` puts exactly the
    reference encoding on the wire in both modes and at every length (both branches), AND the
    8-byte prefix of that encoding is what Go's `PutInt32(int32(len+1))` writes. -/
theorem typed_strbytes_any_length_i32 (enc : Bool) (buf s : Bytes) (hnz : ∀ b ∈ s, b ≠ 0) (hlen : s.length + 1 < 2^31) :
    wireBytes (putStringBytesL enc buf s) = buf ++ Spec.enc enc (.str s) ∧
    wireBytes (putString enc buf s) = buf ++ Spec.enc enc (.str s) ∧
    Spec.enc true (.str s) = goLenPrefix (s.length + 1) ++ s ++ [0] := by
  refine ⟨wireBytes_putStringBytes enc buf s hnz (by omega), wireBytes_putString enc buf s hnz (by omega), ?_⟩
  rw [goLenPrefix_small _ hlen]
  simp [Spec.enc]

/-- at and above 2^31 Go's prefix is NOT the reference prefix (F-C01-string-len-int32-wrap). For
    `len + 1 = 2^31` it encodes −2^31 (the receiver's `GetString` rejects a negative length: the
    sender has streamed 2 GiB and got no error); for `len + 1 = 2^32 + 5` it encodes 5 (a
    well-formed prefix announcing 5 bytes: the receiver returns a 5-byte string and reads the
    remaining 4 GiB as the next values). So `typed_strbytes_any_length` with its `< 2^64` hypothesis
    is a statement about the model's 64-bit prefix only; for the code the bound is 2^31
    (`typed_strbytes_any_length_i32`), and the library refuses a longer string on an encrypting
    stream. -/
theorem strbytes_prefix_wraps :
    goLenPrefix (2^31) ≠ be64 (2^31) ∧ toI32 ((2^31 : Nat) : Int) = -(2^31 : Int) ∧
    goLenPrefix (2^32 + 5) = be64 5 := by
  decide +kernel

end Cedar.C01
