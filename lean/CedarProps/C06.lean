/-
  C06 — Session resumption requires the session key and never revives a dead session.
-/
import CedarProofs.Keyed
import CedarProofs.CacheHistory
import CedarProps.C02

namespace Cedar.C06
open Cedar Cedar.SC

/-- a successful server-side resumption found a live (not expired at lookup time) entry that carries
    a key; the connection is switched to that key, and the reported identity and authentication
    status are exactly the entry's (what the establishing handshake stored) — authenticated, where
    the policy REQUIRES it -/
theorem resume_needs_key (c : Cache) (now : Nat) (sid : Str) (want : Bool) (nonce : Nat) (ra : Bool)
    (c' : Cache) (reply : ResumeReply) (o : ResumeOutcome)
    (h : serverResume c now sid want nonce ra = (c', reply, some o)) :
    ∃ e, c.get sid = some e ∧ e.expired now = false ∧ e.key.isSome = true ∧ o.key = e.key ∧ o.encrypted = true ∧
         o.user = e.user ∧ o.authenticated = e.authenticated ∧
         (want = true → reply = .authorized nonce) ∧ (ra = true → o.authenticated = true) := by
  obtain ⟨e, hr, _, rfl, rfl⟩ := serverResume_some h
  obtain ⟨hg, hx, hk, _, ha⟩ := resumable_eq_some.mp hr
  exact ⟨e, hg, hx, hk, rfl, rfl, rfl, rfl, fun hw => if_pos hw, ha⟩

/-- an identifier that is not in the cache, or whose entry is expired at lookup time, or whose entry
    carries no key, is not resumed — and a requester that asked for a reply is told `SID_NOT_FOUND` -/
theorem dead_not_resumed (c : Cache) (now : Nat) (sid : Str) (want : Bool) (nonce : Nat) (ra : Bool)
    (h : c.get sid = none ∨ (∃ e, c.get sid = some e ∧ (e.expired now = true ∨ e.key = none))) :
    (serverResume c now sid want nonce ra).2 = (if want then .sidNotFound else .none, none) := by
  refine serverResume_refuses (resumable_eq_none.mpr fun e hg hlive => ?_) want nonce
  rcases h with h | ⟨e', he, hd⟩
  · rw [h] at hg; cases hg
  · rw [he] at hg; cases hg
    rcases hd with hx | hk
    · rw [hx] at hlive; cases hlive
    · simp [Entry.usable, hk]

/-! "a session that … was invalidated, or never existed is not resumed": under such an identifier
`get` finds nothing, which is the first case of `dead_not_resumed`. -/

theorem invalidated_is_dead (c : Cache) (sid : Str) : (c.invalidate sid).get sid = none :=
  get_invalidate_self c sid

theorem never_stored_is_dead (sid : Str) : ({} : Cache).get sid = none := rfl

/-- … and a `Store` or `Invalidate` of any other identifier leaves it so -/
theorem other_ops_do_not_revive (c : Cache) (sid : Str) (e : Entry) (id' : Str)
    (hdead : c.get sid = none) (he : e.id ≠ sid) (hi : id' ≠ sid) :
    (c.store e).get sid = none ∧ (c.invalidate id').get sid = none :=
  ⟨(get_store_other c e sid he.symm).trans hdead, (get_invalidate_other c id' sid hi.symm).trans hdead⟩

theorem expired_lookup_removes (c : Cache) (now : Nat) (sid : Str) (e : Entry)
    (hg : c.get sid = some e) (hx : e.expired now = true) :
    (c.lookupNonExpired now sid).2 = none ∧ (c.lookupNonExpired now sid).1.get sid = none := by
  have h : (c.lookupNonExpired now sid).2 = none := by
    rw [lookupNonExpired_snd, hg, Option.filter_some, hx]
    rfl
  exact ⟨h, (get_lookupNonExpired_self ..).trans h⟩

/-- a server whose policy for the named command REQUIRES authentication does not resume a session
    that was established without it (F-C03-resume-required) — the requester is told the session is
    unknown (and comes back with a full handshake, in which authentication runs) -/
theorem required_auth_not_resumed (c : Cache) (now : Nat) (sid : Str) (want : Bool) (nonce : Nat) (e : Entry)
    (hg : c.get sid = some e) (hu : e.authenticated = false) :
    (serverResume c now sid want nonce true).2 = (if want then .sidNotFound else .none, none) := by
  refine serverResume_refuses (resumable_eq_none.mpr fun e' hg' _ => ?_) want nonce
  rw [hg] at hg'; cases hg'
  simp [Entry.usable, hu]

/-- a server with its own cache and the global fallback refuses an identifier that is dead in both -/
theorem fallback_dead_not_resumed (own glob : Cache) (now : Nat) (sid : Str) (want : Bool) (nonce : Nat) (ra : Bool)
    (ho : own.get sid = none ∨ (∃ e, own.get sid = some e ∧ e.expired now = true))
    (hg : glob.get sid = none ∨ (∃ e, glob.get sid = some e ∧ (e.expired now = true ∨ e.key = none))) :
    (serverResume2 own glob now sid want nonce ra).2.2 = (if want then .sidNotFound else .none, none) := by
  have hl : (own.lookupNonExpired now sid).2 = none := by
    rcases ho with h | ⟨e, he, hx⟩
    · rw [Cache.lookupNonExpired, h]
    · exact (expired_lookup_removes own now sid e he hx).1
  rw [serverResume2_miss hl]
  exact dead_not_resumed glob now sid want nonce ra hg

/-- resuming through the global fallback does not copy the session into the server's own cache, so
    invalidating it where it lives (the global cache) is final: whatever happened before, the next
    request for that identifier is refused -/
theorem fallback_never_revives (own glob : Cache) (now now' : Nat) (sid : Str) (w w' : Bool) (n n' : Nat) (ra ra' : Bool)
    (ho : own.get sid = none) :
    let r := serverResume2 own glob now sid w n ra
    r.1.get sid = none ∧
    (serverResume2 r.1 (r.2.1.invalidate sid) now' sid w' n' ra').2.2 = (if w' then .sidNotFound else .none, none) := by
  have hl : own.lookupNonExpired now sid = (own, none) := by
    rw [Cache.lookupNonExpired, ho]
  rw [serverResume2_miss (congrArg Prod.snd hl), hl]
  exact ⟨ho, fallback_dead_not_resumed own _ now' sid w' n' ra' (.inl ho) (.inl (get_invalidate_self _ sid))⟩

/-- client side of "a session without a key is never resumed", the explicit-`SessionID` path
    (F-C06-client-explicit-keyless): a client handshake that names a cached session by id and
    reports it resumed found a live entry carrying a key under an AES-GCM protocol name, and reports
    that key -/
theorem client_explicit_needs_key (c : Cache) (now : Nat) (sid : Str) (ans : ServerAnswer) (ra : Bool)
    (c' : Cache) (sid' : Str) (key : Option Nat) (user : String) (auth : Bool)
    (h : clientById c now sid ans ra = (c', .resumed sid' key user auth)) :
    key.isSome = true ∧ ∃ e, c.get sid = some e ∧ e.key = key ∧ (e.crypto = "AES" ∨ e.crypto = "AESGCM") := by
  obtain ⟨e, hr, _, _, rfl, _⟩ := clientById_resumed (congrArg Prod.snd h)
  obtain ⟨hg, _, hk, hc, _⟩ := resumable_eq_some.mp hr
  exact ⟨hk, e, hg, rfl, hc⟩

private def liveEntry : Entry :=
  { id := ['s'], addr := [], key := some 1, crypto := "AES", user := "u", authenticated := true,
    validCommands := [], expiration := none, lease := 0, tag := [] }

/-- non-vacuity: a live keyed session in the global cache IS resumed through the fallback -/
example : (serverResume2 {} (({} : Cache).store liveEntry) 5 ['s'] true 9).2.2.2.isSome = true := by
  decide +kernel

/-- relative to the symbolic hash: on a resumed connection the first protected frame a receiver
    accepts was sealed with AAD digests equal to the receiver's own view of the cleartext exchanged
    on THIS connection. A frame recorded on an earlier connection was sealed over that connection's
    request/reply bytes; request and reply carry fresh values (F-C06-replay), so those bytes differ
    and the recorded frame is rejected. -/
theorem replay_rejected (r : Stream) (k : Nat) (f : WireFrame) (iv : Option IV) (sl : Sealed)
    (hk : r.key = some k) (he : r.encrypted = true) (hc : r.decCtr = 0) (hfin : r.finRecvAAD = false)
    (hb : f.body = .ct iv sl)
    (hdiff : sl.aad.digests ≠ some (r.dig.fr, r.dig.fs)) :
    ∃ e, r.recvFrameWithEnd f = .error e := by
  refine except_error_of_not_ok _ fun ⟨s', d, fl⟩ h => ?_
  obtain ⟨_, _, _, _, ho, _⟩ := (recvFrameWithEnd_keyed_ok hk he).mp h
  obtain ⟨_, c, hb', _, _, _, haad, _⟩ := openBody_ok ho
  rw [hb] at hb'; cases hb'
  exact hdiff (by rw [haad, hfin]; rfl)

/-- distinct cleartext transcripts have distinct (symbolic) digests -/
theorem digests_differ (a b : Bytes) (h : a ≠ b) : Digest.H a ≠ Digest.H b :=
  fun heq => h (Digest.H.inj heq)

/-! ### the legacy no-reply mode: the part of "replays are rejected" that does NOT hold

`handleSessionResumption` answers only a request that carries `ResumeResponse = true`. A request
without it gets no server message at all before the protected traffic: the server's stream has
received the (fixed) request bytes, has sent nothing, and is keyed. -/

/-- the server's stream after `handleSessionResumption` accepted the cleartext request bytes `req`:
    they were fed to the receive digest; the reply — present only when one was asked for, and then
    carrying the fresh `ResumeNonce` — to the send digest; then the session key `k` was installed
    (`setupStreamEncryption`, own fresh base IV `iv`). -/
def serverAfterResume (req : Bytes) (reply : Option Bytes) (k : Nat) (iv : IV) : Stream :=
  let s0 : Stream := ({} : Stream).feedRecv req
  let s1 : Stream := match reply with
    | none => s0
    | some b => { s0 with dig := s0.dig.feedSend b }
  s1.setKey k iv

/-- "a replay of a recorded resumed connection is rejected", stated for the no-reply mode: whatever
    first frame a server connection of the session accepted, a second server connection that
    received the same request bytes (and, like the first, sent nothing) rejects. -/
def noreply_replay_statement : Prop :=
  ∀ (req : Bytes) (k : Nat) (iv1 iv2 : IV) (f : WireFrame),
    ((serverAfterResume req none k iv1).recvFrameWithEnd f).toBool = true →
    ((serverAfterResume req none k iv2).recvFrameWithEnd f).toBool = false

/-- the recorded first protected frame of a legitimate key-holding requester (its own base IV,
    AAD digests = (what it sent, what it received) = (H request, nothing)); 33 = IV 16 + one byte + tag 16, the
    length an honest sender puts in header and AAD -/
private def recordedFrame : WireFrame :=
  ⟨0, 33, .ct (some ⟨5, []⟩) ⟨7, (⟨5, []⟩ : IV).nonce 0, ⟨some (.H [1, 2, 3], .zero), 0, 33⟩, [42]⟩⟩

/-- known finding F-C06-noreply-replay: in the no-reply mode the statement is false — the recorded
    frame authenticates on a second connection -/
theorem noreply_replay_fails : ¬ noreply_replay_statement := by
  intro h
  exact absurd (h [1, 2, 3] 7 ⟨1, []⟩ ⟨2, []⟩ recordedFrame (by decide +kernel)) (by decide +kernel)

/-- why it is false: `replay_rejected` needs the recorded frame's AAD digests to differ from the
    fresh connection's `(dig.fr, dig.fs)` (its hypothesis `hdiff`). In the no-reply mode they cannot:
    every server connection that received the same request has the same two digests (the receive
    digest is a function of the request, the send digest is the unused-direction placeholder). -/
theorem noreply_digests_repeat (req : Bytes) (k : Nat) (iv1 iv2 : IV) :
    ((serverAfterResume req none k iv1).dig.fr, (serverAfterResume req none k iv1).dig.fs) =
    ((serverAfterResume req none k iv2).dig.fr, (serverAfterResume req none k iv2).dig.fs) ∧
    (serverAfterResume req none k iv2).dig.fs = .zero := by
  refine ⟨rfl, rfl⟩

/-- the part that holds: when a reply was asked for, the two connections' replies differ (fresh
    `ResumeNonce`), and then a frame sealed over the first connection's digests is rejected by the
    second — for every request, key, IVs and frame -/
theorem reply_replay_rejected (req b1 b2 : Bytes) (k : Nat) (iv2 : IV) (f : WireFrame) (iv : Option IV) (sl : Sealed)
    (hfresh : b1 ≠ b2)
    (hb : f.body = .ct iv sl)
    (hrec : sl.aad.digests = some (.H req, .H b1)) :
    ∃ e, (serverAfterResume req (some b2) k iv2).recvFrameWithEnd f = .error e := by
  apply replay_rejected (serverAfterResume req (some b2) k iv2) k f iv sl rfl rfl rfl rfl hb
  rw [hrec]
  -- the send digest of this connection is `H b2`, by computation
  exact fun heq => digests_differ b1 b2 hfresh (Prod.mk.inj (Option.some.inj heq)).2

/-! Non-vacuity: a live keyed session "s1" and a keyless one "s2". -/
private def live : Entry :=
  { id := "s1".toList, addr := [], key := some 7, crypto := "AES", user := "alice", authenticated := true,
    validCommands := [], expiration := some 2000, lease := 100, tag := [] }
private def keyless : Entry := { live with id := "s2".toList, key := none, crypto := "" }
def cache0 : Cache := (({} : Cache).store live).store keyless
example : (serverResume cache0 1000 "s1".toList true 5).2 = (.authorized 5, some ⟨"alice", true, true, some 7⟩) := by decide +kernel
example : (serverResume cache0 1000 "s2".toList true 5).2 = (.sidNotFound, none) := by decide +kernel
example : (serverResume cache0 3000 "s1".toList false 5).2 = (.none, none) := by decide +kernel
example : (serverResume (cache0.invalidate "s1".toList) 1000 "s1".toList true 5).2 = (.sidNotFound, none) := by decide +kernel

/-! ### Wire-level meaning of a successful resumption

Clause: "a requester without the key can neither get a single byte accepted as application data nor
read anything sent to it; from the resumption reply onwards every byte on that connection is
protected by that key". `resume_needs_key` only reads fields of the outcome record; the theorem
below ties the outcome to the Stream model. -/

/-- After a successful `serverResume` the server's stream as `handleSessionResumption` leaves it
    (`serverAfterResume`, with the cached entry's key `k`), driven by ANY later history of
    application operations `hist` (sends, buffered writes, secrets, receives of arbitrary frames,
    crypto-on; everything but an explicit `SetCryptoMode(false)` by the application itself),
    satisfies `ProtectedBy … k`:
    (a) every frame accepted by `ReceiveFrameWithEnd`, `ReceiveFrame` or `GetSecret` is a genuine
        seal under `k` and the bytes handed over are its plaintext; a frame whose body is raw bytes
        or a seal under any other key is an error in those and in `ReceiveCompleteMessage`,
        `readNextFrame`/`StartMessageRead` and the typed layer's frame loop;
    (b) every frame the server put on the wire during `hist` is a non-empty `.ct` sealed under `k`,
        and no stream that does not hold `k` — in any state — gets anything out of it. -/
theorem resumed_connection_protected (c : Cache) (now : Nat) (sid : Str) (want : Bool) (nonce : Nat) (ra : Bool)
    (c' : Cache) (reply : ResumeReply) (o : ResumeOutcome)
    (h : serverResume c now sid want nonce ra = (c', reply, some o))
    (req : Bytes) (replyBytes : Option Bytes) (iv : IV) (hist : List Op)
    (hon : ∀ op ∈ hist, op.keepsCrypto = true) :
    ∃ k e, c.get sid = some e ∧ e.key = some k ∧ o.key = some k ∧ o.encrypted = true ∧
      ProtectedBy ((serverAfterResume req replyBytes k iv).run hist).1
                  ((serverAfterResume req replyBytes k iv).run hist).2 k := by
  obtain ⟨e, hg, _, hks, hok, hoe, _⟩ := resume_needs_key c now sid want nonce ra c' reply o h
  obtain ⟨k, hk⟩ := Option.isSome_iff_exists.mp hks
  exact ⟨k, e, hg, hk, hok.trans hk, hoe, run_protected _ k (setKey_keyed _ k iv) hist hon⟩

/-- corollary in the words of the clause: on the resumed connection a requester that does not hold
    the session key (all it can make are raw bytes and seals under its own keys `k' ≠ k`) gets no
    frame accepted at any point, and opens nothing the server sends. -/
theorem resumed_keyless_requester_locked_out (c : Cache) (now : Nat) (sid : Str) (want : Bool) (nonce : Nat) (ra : Bool)
    (c' : Cache) (reply : ResumeReply) (o : ResumeOutcome)
    (h : serverResume c now sid want nonce ra = (c', reply, some o))
    (req : Bytes) (replyBytes : Option Bytes) (iv : IV) (hist : List Op)
    (hon : ∀ op ∈ hist, op.keepsCrypto = true) :
    ∃ k, o.key = some k ∧
      (∀ g : WireFrame, (∀ ivo sl, g.body = .ct ivo sl → sl.key ≠ k) →
         ∃ e, ((serverAfterResume req replyBytes k iv).run hist).1.recvFrameWithEnd g = .error e) ∧
      (∀ f ∈ ((serverAfterResume req replyBytes k iv).run hist).2, ∀ r : Stream, r.key ≠ some k →
         ∃ e, r.recvFrameWithEnd f = .error e) := by
  obtain ⟨k, e, _, _, hok, _, hp⟩ :=
    resumed_connection_protected c now sid want nonce ra c' reply o h req replyBytes iv hist hon
  exact ⟨k, hok, fun g hg => (hp.rejects g hg).1, fun f hf r hr => (hp.sent_opaque f hf r hr).1⟩

/-! Non-vacuity: the hypotheses are met by `cache0`/"s1" (key 7) and a history with sends, a secret
    and a received junk frame; the server emits two frames in it; the key holder's first frame IS
    accepted on that stream while the same frame sealed under key 8 is not. -/
private def histDemo : List Op := [.send [1] 1, .recv ⟨1, 1, .raw [0]⟩, .secret [2], .crypto true]
private def keyHolderFrame (k : Nat) : WireFrame :=
  ⟨0, 33, .ct (some ⟨5, []⟩) ⟨k, (⟨5, []⟩ : IV).nonce 0, ⟨some (.H [1, 2, 3], .H [9]), 0, 33⟩, [42]⟩⟩

example : ∃ k, (some k = some 7) ∧
    ProtectedBy ((serverAfterResume [1,2,3] (some [9]) k ⟨2, []⟩).run histDemo).1
                ((serverAfterResume [1,2,3] (some [9]) k ⟨2, []⟩).run histDemo).2 k := by
  obtain ⟨k, e, hg, hk, hok, _, hp⟩ := resumed_connection_protected cache0 1000 "s1".toList true 5 false
    _ _ _ (rfl) [1,2,3] (some [9]) ⟨2, []⟩ histDemo (by decide +kernel)
  have h7 : some 7 = some k := hok
  exact ⟨k, h7.symm, hp⟩
example : ((serverAfterResume [1,2,3] (some [9]) 7 ⟨2, []⟩).run histDemo).2.length = 2 := by decide +kernel
example : (((serverAfterResume [1,2,3] (some [9]) 7 ⟨2, []⟩).run histDemo).1.recvFrameWithEnd (keyHolderFrame 7)).toBool = true := by decide +kernel
example : (((serverAfterResume [1,2,3] (some [9]) 7 ⟨2, []⟩).run histDemo).1.recvFrameWithEnd (keyHolderFrame 8)).toBool = false := by decide +kernel

/-! ### Replays of recorded connections, beyond the first frame

`replay_rejected` / `reply_replay_rejected` cover the FIRST protected frame and take the digest
difference as a hypothesis about that frame. Below: the whole resumed connection, against the C02
adversary enlarged by everything recorded on earlier connections of the session
(`C02.AdvWireS`), with the freshness facts as explicit session hypotheses. -/

/-- a server connection resumed in the reply mode (reply bytes `b2`, carrying this connection's fresh
    `ResumeNonce`) hands its application only a prefix of the messages the key-holding client sends
    on THIS connection — whatever the adversary forges, reflects, or replays from this or any
    EARLIER connection of the session, at any position.
    Session hypotheses: the base IVs of earlier connections differ in their last 12 bytes from this
    client's (`hiv_fresh`), and every earlier first frame was sealed over a reply other than `b2`
    (`hnonce_fresh`: its second AAD digest is not `H b2` — a consequence of the fresh nonce under
    the free-constructor hash, `digests_differ`). In the no-reply mode the second hypothesis is
    unavailable and the statement fails (`noreply_replay_fails`). -/
theorem resumed_replay_prefix (req b2 : Bytes) (k : Nat) (ivS ivR : IV) (S S' R' : Stream)
    (ops opsR : List SendOp) (sent own old w : List WireFrame)
    (hivS : ivS.w0 < 2^32) (hivR : ivR.w0 < 2^32) (hsep : ivS.tail ≠ ivR.tail)
    (hsend : (S.setKey k ivS).sendAll ops = .ok (S', sent))
    (hown : (serverAfterResume req (some b2) k ivR).sendAll opsR = .ok (R', own))
    (hiv_fresh : ∀ f ∈ old, ∀ ivo c, f.body = .ct ivo c → c.key = k → c.nonce.tail ≠ ivS.tail)
    (hnonce_fresh : ∀ f ∈ old, ∀ ivo c, f.body = .ct ivo c → c.key = k →
        ∀ d1 d2, c.aad.digests = some (d1, d2) → d2 ≠ .H b2)
    (hadv : C02.AdvWireS k sent own old w) (n : Nat) :
    Stream.deliverFuel n (serverAfterResume req (some b2) k ivR) w <+: messagesOf [] ops := by
  let R0 : Stream := { (({} : Stream).feedRecv req) with dig := (({} : Stream).feedRecv req).dig.feedSend b2 }
  have hfs : R0.dig.fs = .H b2 := rfl
  have hold : C02.OldConnections k ivS (R0.dig.fr, R0.dig.fs) old :=
    ⟨hiv_fresh, fun f hf ivo c hb hk heq => hnonce_fresh f hf ivo c hb hk _ _ heq hfs⟩
  exact C02.recv_prefix_resumed S S' R0 R' k ivS ivR ops opsR sent own old w hivS hivR hsep hold hsend hown hadv n

/-! ### "never revives a dead session": all orderings

`invalidated_is_dead`, `other_ops_do_not_revive`, `expired_lookup_removes` are single steps. The
property quantifies over every ordering of cache operations. Below: histories (`List COp`,
CedarProofs/CacheHistory.lean) over the SessionCache model itself — `Store`, `Invalidate`,
`InvalidateExpired`, `LookupNonExpired`, `MapCommand`, server resumptions, client resumptions through
the command map and by explicit id, `storeClientSession` — in any order and number. -/

/-- what "no resumption of `S` succeeds" means in a cache state, at time `now` -/
def NoResume (c : Cache) (S : Str) (now : Nat) : Prop :=
  (∀ want nonce ra, (serverResume c now S want nonce ra).2 = (if want then .sidNotFound else .none, none)) ∧
  (∀ ans ra, (clientById c now S ans ra).2 = .resumeFailed S) ∧
  (∀ tag addr cmd ans ra sid key user auth,
      (clientTry c now tag addr cmd ans ra).2 = .resumed sid key user auth → sid ≠ S)

/-- Every ordering: let `S` be dead as of time `t` in a well-formed cache — absent, or present with
    an expiration before `t`. After ANY history of cache operations in which `S` is not stored again
    (no `Store` / `storeClientSession` of that identifier) and no operation reads a clock earlier
    than `t`, no resumption of `S` succeeds at any time `≥ t`: the server answers `SID_NOT_FOUND`, a
    client naming it explicitly fails, and no command-map route resumes it. Since every prefix of a
    history is a history, this holds at every point along it. -/
theorem dead_stays_dead (c : Cache) (S : Str) (t : Nat) (ops : List COp)
    (hwf : c.WF) (hdead : c.DeadAt S t)
    (hno : ∀ o ∈ ops, o.stores S = false) (htime : ∀ o ∈ ops, ∀ n, o.time = some n → t ≤ n) :
    ∀ pre post, ops = pre ++ post → ∀ now, t ≤ now → NoResume (c.runOps pre) S now := by
  intro pre post hsplit now ht
  subst hsplit
  have hw := wf_runOps pre c hwf
  have hd := dead_runOps pre c S t hwf hdead (fun o ho => hno o (List.mem_append_left _ ho))
    (fun o ho => htime o (List.mem_append_left _ ho))
  refine ⟨fun want nonce ra => serverResume_refuses (dead_not_resumable hd ht ra) want nonce,
    fun ans ra => by rw [clientById_eq, dead_not_resumable hd ht], ?_⟩
  intro tag addr cmd ans ra sid key user auth h
  obtain ⟨_, e, _, hr, _, rfl, _⟩ := clientTry_resumed h
  exact resumable_ne_dead hw hd ht hr

/-- any history `pre`, then `Invalidate S`, then any history `post` in which `S` is not stored again:
    at every point after the invalidation, at every time, no resumption of `S` succeeds. No
    assumption on the clock (an absent session is dead at time 0). -/
theorem invalidate_wins_history (c : Cache) (S : Str) (pre post : List COp) (hwf : c.WF)
    (hno : ∀ o ∈ post, o.stores S = false) :
    ∀ p1 p2, post = p1 ++ p2 → ∀ now, NoResume (c.runOps (pre ++ .invalidate S :: p1)) S now := by
  intro p1 p2 hsplit now
  have hw1 : ((c.runOps pre).invalidate S).WF := wf_apply (wf_runOps pre c hwf) (.invalidate S)
  have hd1 : ((c.runOps pre).invalidate S).DeadAt S 0 := by
    intro e he; rw [get_invalidate_self] at he; cases he
  have hrun : c.runOps (pre ++ .invalidate S :: p1) = ((c.runOps pre).invalidate S).runOps p1 :=
    List.foldl_append ..
  rw [hrun]
  exact dead_stays_dead _ S 0 post hw1 hd1 hno (fun _ _ _ _ => Nat.zero_le _) p1 p2 hsplit now (Nat.zero_le _)

/-- a session whose entry is expired at time `t` (whether or not a lookup has removed it yet) is
    never resumed afterwards, in any history that does not store it again and whose clock readings
    are `≥ t` -/
theorem expired_stays_dead_history (c : Cache) (S : Str) (t : Nat) (e : Entry) (ops : List COp) (hwf : c.WF)
    (hg : c.get S = some e) (hx : e.expired t = true)
    (hno : ∀ o ∈ ops, o.stores S = false) (htime : ∀ o ∈ ops, ∀ n, o.time = some n → t ≤ n) :
    ∀ pre post, ops = pre ++ post → ∀ now, t ≤ now → NoResume (c.runOps pre) S now :=
  dead_stays_dead c S t ops hwf (fun _ he' => Option.some.inj (hg.symm.trans he') ▸ expired_iff.mp hx) hno htime

/-- every cache reachable from the empty one by these operations is well-formed, so `hwf` is no
    restriction -/
theorem reachable_wf (ops : List COp) : (({} : Cache).runOps ops).WF := wf_runOps ops {} wf_empty

/-- the hypothesis "not stored again" is needed, and is the only way back: a `Store` of the
    identifier after the invalidation makes it resumable again (a new handshake established it) -/
example : ((cache0.runOps [.invalidate "s1".toList, .store live]).get "s1".toList).isSome = true := by decide +kernel

/-! Non-vacuity: a history with resumptions of another session, a sweep, a client-side store and
    command mapping around an invalidation of "s1" (key 7) meets the hypotheses; "s1" is refused at
    the end, while before the invalidation it was resumable. -/
private def histPost : List COp :=
  [.serverResume 1000 "s2".toList true 1 false, .sweep 1500, .mapCommand [] "a".toList "c".toList "s1".toList,
   .clientStore "t".toList "a".toList keyless, .clientTry 1600 [] "a".toList "c".toList .authorized false,
   .clientById 1700 "s1".toList .authorized false, .lookup 1800 "s1".toList]
example : ∀ o ∈ histPost, o.stores "s1".toList = false := by decide +kernel
example : cache0.WF := wf_store (wf_store wf_empty live) keyless
example : (serverResume (cache0.runOps ([.serverResume 900 "s1".toList true 3 false] ++ .invalidate "s1".toList :: histPost))
    2000 "s1".toList true 5).2 = (.sidNotFound, none) := by decide +kernel
example : (serverResume (cache0.runOps [.serverResume 900 "s1".toList true 3 false]) 1000 "s1".toList true 5).2.2.isSome = true := by decide +kernel

end Cedar.C06
