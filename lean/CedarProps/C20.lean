/-
  C20 — A CCB dial returns only the connection that presents its fresh connect id.

  A *schedule* is an arbitrary list of events (arrivals of reverse connections with any greeting,
  broker replies, context cancellation, and the choices of Go's `select`); theorems quantify over
  all of them, for every connect id / every RNG.
-/
import CedarGen.FactsCCB
import CedarProofs.CcbDialSys

namespace Cedar.C20

open Cedar Cedar.Ccb

/-- Standard mode. Under every arrival order and every interleaving with broker replies, cancellation
    and select choices: if `dialStandard` hands back connection `k`, then `k`'s opening message was
    a well-formed CCB_REVERSE_CONNECT hello whose ClaimId is exactly the id generated for this
    request, `k` has not been closed, and every connection that arrived before it has been closed. -/
theorem returns_only_matching (id : Id) (evs : List Ev) (k : Nat)
    (h : ((Std.init id).run evs).result = some (.ok k)) :
    let s := (Std.init id).run evs
    s.seen[k]? = some (.hello reverseConnectCmd id) ∧ k ∉ s.closed ∧ ∀ j, j < k → j ∈ s.closed := by
  obtain ⟨hinv, -, hid, -⟩ := Std.run_init id evs
  have := Std.returned_matches hinv h
  rwa [hid] at this

/-- Standard mode. Once the attempt is over (it returned and its context was cancelled, which `Dial`'s
    deferred cancel always does), every connection whose greeting was anything other than the hello
    with this request's id — wrong id, empty id, another request's id, wrong command, garbage,
    immediate close, silence — has been closed, and it is not the connection handed back.  All
    schedules. -/
theorem rogues_closed_never_returned (id : Id) (evs : List Ev) (j : Nat) (g : Greeting)
    (hret : ((Std.init id).run evs).result.isSome = true) (hctx : ((Std.init id).run evs).ctxDone = true)
    (hj : ((Std.init id).run evs).seen[j]? = some g) (hg : g ≠ .hello reverseConnectCmd id) :
    j ∈ ((Std.init id).run evs).closed ∧ ((Std.init id).run evs).result ≠ some (.ok j) := by
  obtain ⟨hinv, -, hid, -⟩ := Std.run_init id evs
  have hnp : g.presents ((Std.init id).run evs).id = false := by
    rw [hid, Bool.eq_false_iff, Ne, presents_iff]; exact hg
  exact ⟨Std.rogues_closed hinv hret hctx hj hnp, fun hr =>
    hg (Option.some.inj (hj.symm.trans (returns_only_matching id evs j hr).1))⟩

/-- In every reachable state of a running attempt, if the broker's failure reply is waiting and the
    select takes it, the attempt ends with exactly that error (no later connection can change it:
    `attempt_result_final`). -/
theorem broker_failure_ends (id : Id) (evs : List Ev) (m : String)
    (hrun : ((Std.init id).run evs).result = none)
    (hrep : ((Std.init id).run evs).replyCh = some (.failure m)) :
    (((Std.init id).run evs).step .pickReply).result = some (.error (.brokerFailure m)) := by
  obtain ⟨-, hr, -, -⟩ := Std.run_init id evs
  -- a reply that is waiting is one the select still listens for
  rw [Std.step_pickReply_failure hrun (hr.on_of_some (by rw [hrep]; rfl)) hrep]
  rfl

/-- the failure an attempt reports is one the broker really sent -/
theorem broker_failure_genuine (id : Id) (evs : List Ev) (m : String)
    (h : ((Std.init id).run evs).result = some (.error (.brokerFailure m))) :
    Ev.reply (.failure m) ∈ evs :=
  (Std.run_init id evs).2.2.2 m (.inr h)

/-- an attempt's result is final: no later event (late reverse connection, late reply) changes it -/
theorem attempt_result_final (id : Id) (evs evs' : List Ev) (r : Except AErr Nat)
    (h : ((Std.init id).run evs).result = some r) : ((Std.init id).run (evs ++ evs')).result = some r := by
  rw [Std.run, List.foldl_append]
  exact List.foldlRecOn evs' Std.step h fun s hs e _ => (s.step_next e).result_stable hs

/-- In proxied mode (and for nested contacts) the broker connection is handed back exactly when the
    broker was reached, supports streaming, answered success, and the hello replayed on that
    connection is the CCB_REVERSE_CONNECT hello with this request's id; in every other case the
    attempt ends with an error (and the broker connection is closed). -/
theorem proxied_returns_iff (id : Id) (b : Broker) (req : Bool) (reply : PReply) (hello : Greeting) :
    (dialProxy id b req reply hello = .ok () ↔
      b.up = true ∧ b.streamingOk = true ∧ (∃ a, reply = .ad a ∧ a.result = true) ∧
        hello = .hello reverseConnectCmd id) ∧
    (proxyRequestDial id b reply hello = .ok () ↔
      b.up = true ∧ b.streamingOk = true ∧ (∃ a, reply = .ad a ∧ a.result = true) ∧
        hello = .hello reverseConnectCmd id) :=
  ⟨dialProxy_ok id b req reply hello, proxyRequestDial_ok id b reply hello⟩

/-- What the broker's reply says about connect ids (a `ClaimId` attribute of its own: the same id,
    another one, garbage) changes nothing — the id the hello is compared with is the one the
    requester generated, never one the peer supplied. -/
theorem proxied_ignores_reply_claim (id : Id) (b : Broker) (req : Bool) (a : ReplyAd) (cl : Option String) (hello : Greeting) :
    dialProxy id b req (.ad { a with claim := cl }) hello = dialProxy id b req (.ad a) hello ∧
    proxyRequestDial id b (.ad { a with claim := cl }) hello = proxyRequestDial id b (.ad a) hello := by
  simp [dialProxy, proxyRequestDial, proxyRequest]

/-- … in particular a broker cannot choose the id: a success reply naming `x` followed by a hello
    presenting `x` is refused unless `x` is the requester's own fresh id -/
theorem broker_cannot_choose_id (id x : Id) (b : Broker) (req : Bool) (a : ReplyAd) (cmd : Int)
    (hx : x ≠ id) : dialProxy id b req (.ad { a with claim := some x }) (.hello cmd x) ≠ .ok () := fun h =>
  hx (Greeting.hello.inj ((dialProxy_ok id b req _ _).mp h).2.2.2).2

/-- a refusal reported by the broker in proxied mode ends the attempt with that error -/
theorem proxied_failure_ends (id : Id) (b : Broker) (req : Bool) (a : ReplyAd) (hello : Greeting)
    (hb : b.up = true) (hs : b.streamingOk = true) (hr : a.result = false) (hu : a.unsupported = false) :
    dialProxy id b req (.ad a) hello = .error (.refused a.err) := by
  simp [dialProxy, proxyRequest, hb, hs, hr, hu]

/-- The whole `Dial`, any number of brokers, any subset working, any interleaving of all attempts'
    events, stagger timer, deliveries, cancellation: if `Dial` returns connection `k` of attempt
    `a`, that attempt drew its own id `rng d`, and the connection presented exactly that id
    (standard mode: the hello on reverse connection `k`, still open; proxied/nested: the hello
    replayed on the broker connection). -/
theorem dial_returns_only_matching (rng : Nat → Id) (contacts : List Contact) (opts : Opts) (sq : Bool)
    (evs : List DEv) (a k : Nat)
    (h : ((Sys.init rng contacts opts sq).run rng evs).result = some (.ok (a, k))) :
    let y := (Sys.init rng contacts opts sq).run rng evs
    ∃ t d, y.atts[a]? = some t ∧ y.draws[a]? = some (some d) ∧ t.id = rng d ∧
      match t with
      | .std s => s.seen[k]? = some (.hello reverseConnectCmd (rng d)) ∧ k ∉ s.closed
      | .prx _ hello _ => hello = some (.hello reverseConnectCmd (rng d)) := by
  intro y
  have hinv : y.Inv rng := Sys.run_init rng contacts opts sq evs
  obtain ⟨t, ht, hres⟩ := hinv.res_att a k h
  have hlt : a < y.draws.length := hinv.len ▸ (List.getElem?_eq_some_iff.mp ht).1
  -- an attempt launched without a draw has failed, so the one that returned has a draw
  obtain ⟨_ | d, hd⟩ : ∃ x, y.draws[a]? = some x := ⟨_, List.getElem?_eq_getElem hlt⟩
  · obtain ⟨e, he⟩ := hinv.nodraw a t hd ht
    rw [hres] at he; cases he
  have hid := hinv.ids a d t hd ht
  refine ⟨t, d, ht, hd, hid, ?_⟩
  have hti := hinv.atts_inv a t ht
  cases t with
  | std s =>
    have := Std.returned_matches hti hres
    rw [show s.id = rng d from hid] at this
    exact ⟨this.1, this.2.1⟩
  | prx id hello r =>
    obtain rfl : id = rng d := hid
    obtain ⟨_ | u, rfl, hx⟩ := Option.map_eq_some_iff.mp hres
    · cases hx
    · exact hti rfl

/-- `Dial` returns at most once: whatever happens afterwards — other brokers' attempts succeeding,
    failing, the timer firing — the result stays the single connection (or error) already returned. -/
theorem at_most_one (rng : Nat → Id) (contacts : List Contact) (opts : Opts) (sq : Bool)
    (evs evs' : List DEv) (r : Except DErr (Nat × Nat))
    (h : ((Sys.init rng contacts opts sq).run rng evs).result = some r) :
    ((Sys.init rng contacts opts sq).run rng (evs ++ evs')).result = some r := by
  rw [Sys.run, List.foldl_append]
  exact List.foldlRecOn evs' (Sys.step rng) h fun y hy e _ => Sys.result_stable rng y e hy

/-- Every launched attempt's connect id is its own RNG draw, and different attempts have different
    draws, so with an RNG that never repeats (crypto/rand, DESIGN §3) no two attempts of a `Dial`
    share an id. -/
theorem id_fresh (rng : Nat → Id) (hrng : ∀ i j, rng i = rng j → i = j)
    (contacts : List Contact) (opts : Opts) (sq : Bool) (evs : List DEv)
    (a b : Nat) (ta tb : Att) (hab : a ≠ b)
    (ha : ((Sys.init rng contacts opts sq).run rng evs).atts[a]? = some ta)
    (hb : ((Sys.init rng contacts opts sq).run rng evs).atts[b]? = some tb)
    (i j : Nat)
    (hi : ((Sys.init rng contacts opts sq).run rng evs).draws[a]? = some (some i))
    (hj : ((Sys.init rng contacts opts sq).run rng evs).draws[b]? = some (some j)) :
    i ≠ j ∧ ta.id = rng i ∧ tb.id = rng j ∧ ta.id ≠ tb.id := by
  have hinv := Sys.run_init rng contacts opts sq evs
  have hne : i ≠ j := by
    rcases Nat.lt_or_gt_of_ne hab with h | h
    · have := hinv.draw_mono a b i j h hi hj; omega
    · have := hinv.draw_mono b a j i h hj hi; omega
  have h1 := hinv.ids a i ta hi ha
  have h2 := hinv.ids b j tb hj hb
  refine ⟨hne, h1, h2, ?_⟩
  rw [h1, h2]
  intro h; exact hne (hrng i j h)

/-- a reverse connection presenting the id of a *different* attempt of the same `Dial` (or of
    an earlier request: any string other than this attempt's own draw) is never what this
    attempt returns -/
theorem other_requests_id_never_returned (id other : Id) (hne : other ≠ id) (evs : List Ev) (k : Nat)
    (hk : ((Std.init id).run evs).seen[k]? = some (.hello reverseConnectCmd other)) :
    ((Std.init id).run evs).result ≠ some (.ok k) := fun hr =>
  hne (Greeting.hello.inj (Option.some.inj (hk.symm.trans (returns_only_matching id evs k hr).1))).2

/-- two rogues (wrong id, garbage), a success reply, then the legitimate hello: connection 2 is
    returned, 0 and 1 were closed -/
example : ((Std.init "ID").run [.arrive (.hello reverseConnectCmd "X"), .arrive .garbage, .reply .success,
    .pickReply, .arrive (.hello reverseConnectCmd "ID"), .pickAccept]).result = some (.ok 2) := by rfl
example : ((Std.init "ID").run [.arrive (.hello reverseConnectCmd "X"), .arrive .garbage, .reply .success,
    .pickReply, .arrive (.hello reverseConnectCmd "ID"), .pickAccept]).closed = [1, 0] := by rfl
/-- the right id under the wrong command is not a match -/
example : ((Std.init "ID").run [.arrive (.hello 68 "ID"), .pickAccept]).result = none := by rfl
/-- the failure reply ends the attempt -/
example : ((Std.init "ID").run [.reply (.failure "gone"), .pickReply]).result =
    some (.error (.brokerFailure "gone")) := by rfl
/-- observed oddity (not a clause of C20): when the failure reply is taken after the accept loop
    already matched a connection, that connection is neither returned nor closed -/
example : let s := (Std.init "ID").run [.arrive (.hello reverseConnectCmd "ID"), .reply (.failure "gone"),
    .pickReply, .cancel]
    s.result = some (.error (.brokerFailure "gone")) ∧ s.orphan = some 0 ∧ s.closed = [] :=
  ⟨rfl, rfl, rfl⟩
/-- two working brokers: the first delivered wins; the other's matching connection is never returned -/
example : ((Sys.init (fun i => match i with | 0 => "R0" | _ => "R1") [.flat, .flat] {} false).run
    (fun i => match i with | 0 => "R0" | _ => "R1")
    [.stagger, .att 1 (.arrive (.hello reverseConnectCmd "R1")), .att 1 .pickAccept,
     .att 0 (.arrive (.hello reverseConnectCmd "R0")), .att 0 .pickAccept,
     .deliver 1, .deliver 0]).result = some (.ok (1, 0)) := by rfl
/-- proxied mode: success reply + matching hello hands back the broker connection; a hello with
    another id does not -/
example : dialProxy "ID" {} false (.ad { result := true }) (.hello reverseConnectCmd "ID") = .ok () := by rfl
example : dialProxy "ID" {} false (.ad { result := true }) (.hello reverseConnectCmd "") = .error .idMismatch := by rfl

/-- `CedarGen.FactsCCB.connectIdSources` (what `GenerateConnectID` calls and which package-level
    variables it reads): it draws from `crypto/rand` and from nothing that survives from one request
    to the next — an id cannot be derived from an earlier one. -/
theorem connect_id_source :
    CedarGen.FactsCCB.connectIdSources.contains "crypto/rand.Read" = true ∧
    CedarGen.FactsCCB.connectIdSources.all
      (fun s => ["crypto/rand.Read", "encoding/hex.EncodeToString", "fmt.Errorf"].contains s) = true := by decide +kernel

/-- the non-cryptographic uses of `math/rand` in ccb/: the shuffle of the broker order and the
    jitter of the listener's reconnect delay -/
def declaredMathRand : List (String × String) := [("listener.go", "Int63n"), ("requester.go", "Shuffle")]

/-- "Fresh, unguessable" on every path that produces a connect id, not only inside the function named
    `GenerateConnectID`. `CedarGen.FactsCCB.connectIdOrigins`: every value ccb/ puts on the
    wire as a request's / hello's ClaimId, and every value it compares a peer's hello against, is
    traced back through local definitions and call arguments to where it was made.
    (1) every origin is a call of `GenerateConnectID` or the id read from a received ad (the
        listener echoing the requester's id);
    (2) on the requesting side (requester.go, nested.go, outbound.go) it is always `GenerateConnectID`;
    (3) the table sees the three generating sites (`dialOne`, `resolveContact`, `OutboundConnect`)
        and both kinds of use, so (1)–(2) are not vacuous;
    (4) `math/rand` is used in ccb/ only for the declared non-cryptographic purposes.
    Inlining an id generator (e.g. `math/rand.Read` + hex) at a call site breaks (1), (2) and (4). -/
theorem connect_id_origins :
    CedarGen.FactsCCB.connectIdOrigins.all (fun x => x.2.2.2.1 == "GenerateConnectID" || x.2.2.2.1 == "peer") = true ∧
    (CedarGen.FactsCCB.connectIdOrigins.filter (fun x => x.1 == "requester.go" || x.1 == "nested.go" || x.1 == "outbound.go")).all
      (fun x => x.2.2.2.1 == "GenerateConnectID") = true ∧
    CedarGen.FactsCCB.connectIdOrigins.contains ("requester.go", "dialStandard", "wire", "GenerateConnectID", "dialOne") = true ∧
    CedarGen.FactsCCB.connectIdOrigins.contains ("requester.go", "acceptReversed", "match", "GenerateConnectID", "dialOne") = true ∧
    CedarGen.FactsCCB.connectIdOrigins.contains ("requester.go", "proxyRequestOnStream", "wire", "GenerateConnectID", "resolveContact") = true ∧
    CedarGen.FactsCCB.connectIdOrigins.contains ("requester.go", "proxyRequestOnStream", "match", "GenerateConnectID", "dialOne") = true ∧
    CedarGen.FactsCCB.connectIdOrigins.contains ("outbound.go", "OutboundConnect", "wire", "GenerateConnectID", "OutboundConnect") = true ∧
    CedarGen.FactsCCB.mathRandUses.all (fun u => declaredMathRand.contains (u.1, u.2.2)) = true := by decide +kernel

end Cedar.C20
