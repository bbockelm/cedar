/-
  C17 — Shared state is safe under concurrency (partial by nature: lock discipline, atomic
  sections, configuration copies and field disjointness over a model; the runtime's mutexes, maps,
  `sync.Once`, atomics and the Go memory model's DRF-SC guarantee are assumed, DESIGN §3 and
  §4 C17).  The fact tables are those of CedarGen.FactsLock and CedarGen.FactsCCB, regenerated on
  every run.
-/
import CedarGen.FactsCCB
import CedarProofs.LocksetLemmas
import CedarProofs.LocksetStream

namespace Cedar.C17

open Cedar Cedar.Lockset

/-- Eraser soundness, once and for all. If every thread's events pass the scan for a guard map `g`,
    then NO well-formed interleaving (any number of threads, any schedule the mutexes admit) contains
    two conflicting accesses next to each other. -/
theorem lockset_sound {L V : Type} [DecidableEq L] (g : V → Option L) (r : List (Nat × Ev L V)) (h : Held L)
    (hrun : Run Held.init r h) (hdisc : ∀ t, scan g [] (proj t r) = true) : ¬ HasRace r :=
  lockset_sound_from g (fun _ => []) r _ h Excl.init (fun _ _ => rfl) hrun hdisc

/-- Clause: the cache and its entries may be used from any number of goroutines — storing, looking
    up, renewing, expiring, invalidating, dumping — without data races or torn reads.
    `FactsLock.cacheMethods`, the lock and access events of every method of `SessionCache` and
    `SessionEntry`, obeys the declared policy (`fieldGuard`: the two maps under the cache lock,
    `expiration` / `lastPeerVersion` / `inherited` under the entry's own lock, everything else never
    written after construction) and releases every lock it takes. Hence: let every thread run ANY
    sequence of calls of these methods on ANY cache / entry objects and be stopped anywhere; no
    interleaving has a data race on any field of any of the objects. Eraser's exemption is explicit:
    constructors (`NewSessionEntry`, `NewSessionCache`) write before the object is published and are
    not in the table. -/
theorem cache_discipline (progs : Nat → List Call) (r : List (Nat × Ev RL RV)) (h : Held RL)
    (hrun : Run Held.init r h)
    (hprog : ∀ t, ∃ rest, proj t r ++ rest = ((progs t).map (callEvents CedarGen.FactsLock.cacheMethods)).flatten) :
    ¬ HasRace r :=
  table_race_free CedarGen.FactsLock.cacheMethods (by decide +kernel) progs r h hrun hprog

/-- Basis of "no lost invalidations" (`FactsLock.cacheMethods`): every `SessionCache` method is ONE
    critical section of the cache lock — it opens with `mu.Lock`/`RLock`, closes with an unlock of
    it and does not release it in between — so under mutex exclusion the methods take effect one
    at a time, in some order (linearizable; the order is what `Lin.run` models), and writers hold
    the lock exclusively (`cache_discipline`). -/
theorem cache_atomic_sections : cacheSectionsOK CedarGen.FactsLock.cacheMethods = true := by decide +kernel

/-- `FactsLock.globals` (session_manager.go): the process-wide cache pointer is written only inside
    `sync.Once.Do` and read only there or after `Do` returned; the session counter is touched
    through `sync/atomic` only. -/
theorem globals_once : globalsOK CedarGen.FactsLock.globals = true := by decide +kernel

/-- `FactsLock.globals` (session_manager.go): no function advances a package-level variable by an
    atomic load followed by a separate atomic store, and `GetNextSessionCounter` advances the
    session counter by one atomic read-modify-write. -/
theorem counter_minted_in_one_step :
    noSplitRMW CedarGen.FactsLock.globals = true ∧ counterRMW CedarGen.FactsLock.globals = true := by decide +kernel

/-- Clause: server handshakes sharing the process do not disturb one another — each mints its OWN
    session identifier. Whatever the interleaving of any number of threads, when every mint is ONE
    atomic fetch-and-add all values handed out are pairwise distinct. -/
theorem atomic_mints_distinct (c : Nat) (l : List Mint.Step) (h : Mint.onlyAdds l) :
    (Mint.run { ctr := c } l).out.Nodup :=
  (Mint.run_adds l h { ctr := c } (by intro v hv; cases hv) List.nodup_nil).2

/-- A mint made of an atomic load and a separate atomic store hands the same value to two threads
    under the schedule load₁ load₂ store₁ store₂ — without any data race (why
    `counter_minted_in_one_step` is an obligation and the race detector is not enough). -/
theorem split_mint_collides (c : Nat) :
    (Mint.run { ctr := c } [.load 1, .load 2, .store 1, .store 2]).out = [c + 1, c + 1] := rfl

/-- `FactsLock.clientStoreCalls` (auth.go storeClientSession, its cache calls in source order): the
    entry is stored before the first command mapping is made — the order
    `store_then_map_survives_sweep` is about (`map_then_store_loses_route`: the other order). -/
theorem client_store_files_entry_first : storeBeforeMap CedarGen.FactsLock.clientStoreCalls = true := by decide +kernel

/-- Clause: storing and expiring from any number of goroutines. `storeClientSession` files the entry
    FIRST and maps the commands afterwards; an expiry sweep of another goroutine that runs between
    any two of these steps finds the entry and leaves the mappings made so far — the completed
    handshake is routable. -/
theorem store_then_map_survives_sweep (info : Nat → Lin.EntInfo) (c : Lin.CC) (u ck : Nat) (hx : Lin.expired info u = false) :
    let c1 := (Lin.apply info c (.store u)).1
    let c2 := (Lin.apply info (Lin.apply info c1 .gc).1 (.mapCmd ck (info u).key)).1
    let c3 := (Lin.apply info c2 .gc).1
    (ck, (info u).key) ∈ c3.cmds ∧ Lin.aget c3.sessions (info u).key = some u := by
  intro c1 c2 c3
  have h1 : Lin.aget c1.sessions (info u).key = some u := if_pos rfl
  have h2 : Lin.aget c2.sessions (info u).key = some u := Lin.sweep_keeps_live h1 hx
  exact ⟨Lin.sweep_keeps_live_route (List.mem_cons_self ..) h2 hx, Lin.sweep_keeps_live h2 hx⟩

/-- In the other order (mappings first, entry last) a sweep in between sees the mapping as an orphan
    and deletes it: the session ends up stored but unreachable by command. -/
theorem map_then_store_loses_route :
    let info : Nat → Lin.EntInfo := fun _ => { key := 7, exp := .future }
    let c := (Lin.run info {} [.mapCmd 5 7, .gc, .store 0]).1
    Lin.aget c.sessions 7 = some 0 ∧ c.cmds = [] := by decide +kernel

/-- Clause: no lost invalidations; post-condition "an invalidated id is unreachable by every
    lookup". In every sequential order of cache operations (every linearization): once `Invalidate
    k` has taken effect, and until some thread `Store`s an entry with that id again, no `Lookup`,
    `LookupNonExpired` or `LookupByCommand` returns an entry with id `k`, and `k` is not in the
    cache at the end — whatever else (other stores, command mappings, sweeps, dumps, renewals)
    happens in between. -/
theorem invalidate_wins (info : Nat → Lin.EntInfo) (c : Lin.CC) (k : Nat) (ops : List Lin.Op)
    (hw : Lin.WF info c) (hno : ∀ o ∈ ops, ∀ u, o = .store u → (info u).key ≠ k) :
    let c1 := (Lin.apply info c (.invalidate k)).1
    Lin.aget (Lin.run info c1 ops).1.sessions k = none ∧
    ∀ res ∈ (Lin.run info c1 ops).2, res.names info k = false := by
  intro c1
  obtain ⟨⟨-, ha⟩, hres⟩ := Lin.run_induct (info := info) (P := fun c => Lin.WF info c ∧ Lin.aget c.sessions k = none)
    (Q := fun res => res.names info k = false) (fun _ o ho => Lin.apply_absent (hno o ho))
    ⟨Lin.apply_wf hw _, Lin.aget_invalidate_self info c k⟩
  exact ⟨ha, hres⟩

/-- `FactsLock.resumeCacheCalls` (security/auth.go): the two resumption paths — the server's
    `handleSessionResumption` and the client's `resumeSession`, function literals inside them
    included — call `LookupNonExpired` / `Invalidate` on a session cache and never `Store` (the
    lease is renewed in place on the entry object). Re-adding a `cache.Store(entry)` there —
    lock-correct and sequentially a no-op — breaks this theorem. -/
theorem resumption_path_never_stores : Lin.resumeCallsOK CedarGen.FactsLock.resumeCacheCalls = true := by decide +kernel

/-- `invalidate_wins` with its "nobody stores the id again" hypothesis discharged from the code for
    resumptions in flight: whatever cache operations the resumption paths issue (any number of
    handshakes, any interleaving with the invalidation — the operations are only required to be
    calls the regenerated table lists), an `Invalidate k` that has taken effect is final. -/
theorem invalidate_wins_resumption (info : Nat → Lin.EntInfo) (c : Lin.CC) (k : Nat) (ops : List Lin.Op)
    (hw : Lin.WF info c)
    (hcode : ∀ o ∈ ops, (CedarGen.FactsLock.resumeCacheCalls.map (·.2)).contains o.method = true) :
    let c1 := (Lin.apply info c (.invalidate k)).1
    Lin.aget (Lin.run info c1 ops).1.sessions k = none ∧
    ∀ res ∈ (Lin.run info c1 ops).2, res.names info k = false :=
  invalidate_wins info c k ops hw fun o ho u heq =>
    absurd heq (Lin.not_store_of_resumeCallsOK resumption_path_never_stores (hcode o ho) u)

/-- The tables the inclusion theorems of this file range over still see the code they are about
    (non-vacuity as an obligation, not only as an example). -/
theorem fact_tables_inhabited :
    Cfg.tablesInhabited CedarGen.FactsLock.authSites CedarGen.FactsLock.configWrites CedarGen.FactsLock.globals
      CedarGen.FactsLock.streamMethods CedarGen.FactsLock.cacheMethods = true ∧
    CedarGen.FactsCCB.brokerWriteSites.isEmpty = false := by decide +kernel

/-- The well-formedness `invalidate_wins` assumes holds in every reachable cache (entries are filed
    under their own id by `Store`; nothing else adds entries). -/
theorem wf_reachable (info : Nat → Lin.EntInfo) (ops : List Lin.Op) : Lin.WF info (Lin.run info {} ops).1 :=
  (Lin.run_induct (info := info) (P := Lin.WF info) (Q := fun _ => True) (fun _ o _ h => ⟨Lin.apply_wf h o, trivial⟩)
    (fun _ h => (List.not_mem_nil h).elim)).1

/-- Post-condition "counts consistent": `InvalidateExpired` returns exactly the number of sessions
    it removed. -/
theorem sweep_count (info : Nat → Lin.EntInfo) (c : Lin.CC) :
    ∃ n, (Lin.apply info c .gc).2 = .nat n ∧ n + (Lin.apply info c .gc).1.sessions.length = c.sessions.length :=
  ⟨_, rfl, Nat.sub_add_cancel (List.length_filter_le ..)⟩

/-- Clause: concurrent connections and handshakes may share one security configuration.
    `FactsLock.authSites`, `FactsLock.configWrites`: every library call of `NewAuthenticator`
    (client, server, ccb, SecurityManager) and the per-command configuration provider of the server
    hand over a private copy (`x := *shared; … &x`), and the only writes through a configuration
    that a function did not allocate are the declared ones into the Authenticator's own (copied)
    configuration. So no handshake path writes through the object the caller shares. -/
theorem config_not_written :
    Cfg.authSitesOK CedarGen.FactsLock.authSites = true ∧ Cfg.configWritesOK CedarGen.FactsLock.configWrites = true := by
  decide +kernel

/-- Clause: handshakes do not disturb one another. With one configuration copy per connection, in
    EVERY interleaving of any number of handshakes, a handshake that got as far as advertising a
    public key advertised its own — so the key the server derives from the advertisement is the key
    the client derives from its private half. -/
theorem handshakes_isolated (sched : List Nat) (i : Nat) (h : 2 ≤ (Cfg.runSched false {} sched).pc i) :
    Cfg.keysAgree (Cfg.runSched false {} sched) i = true := by
  have := (Cfg.inv_run sched {} Cfg.inv_init i).2 h
  simp [Cfg.keysAgree, this]

/-- Why the copy is necessary — with ONE shared configuration object the schedule A.new, B.new,
    A.advertise makes A advertise B's key (replayed against the real `NewAuthenticator` /
    `ClientHandshake` by the race engine, case `cfg-witness`). -/
theorem sharing_disturbs : ∃ sched : List Nat,
    2 ≤ (Cfg.runSched true {} sched).pc 0 ∧ Cfg.keysAgree (Cfg.runSched true {} sched) 0 = false :=
  ⟨[0, 1, 0], by decide, by decide⟩

/-- What the handshake leaves behind is an established stream — `SetSymmetricKey` (keyed session) or
    `FinalizeDigests` (plaintext session) freezes both digests, a keyed stream is encrypting, no
    secret toggle is open. -/
theorem established_after_handshake (s : Stream) (hb : s.beforeSecret = false) :
    (∀ k iv, Dir.Established (Dir.shared (s.setKey k iv))) ∧
    (s.key = none → Dir.Established (Dir.shared s.finalizeDigests)) := by
  constructor
  · intro k iv
    exact ⟨rfl, rfl, fun _ => rfl, hb⟩
  · intro hk
    refine ⟨rfl, rfl, ?_, hb⟩
    intro h
    simp [Dir.shared, Stream.finalizeDigests, hk] at h

/-- Clause: once the handshake is over a stream may be written by one goroutine while another reads
    from it. For every established stream, every incoming wire and EVERY interleaving of send
    operations (SendMessage / SendPartialMessage / WriteFrame, WriteMessage, EndMessage,
    StartMessage, PutSecret) with receive operations (ReceiveFrameWithEnd / ReadFrame, ReceiveFrame,
    ReceiveCompleteMessage, StartMessageRead, ReadMessageBytes, EndMessageRead, GetSecret): what the
    sender observes — frames put on the wire, errors — is exactly what it observes running alone,
    and what the receiver observes — bytes delivered, errors — is exactly what it observes running
    alone. Each interleaving therefore equals the sequential composition; the stream stays
    established throughout. -/
theorem directions_independent (W : Dir.World) (hE : Dir.Established (Dir.shared W.s))
    (ops : List (Sum Dir.SendOp Dir.RecvOp)) :
    (Dir.runWorld W ops).2.filter Dir.Obs.isSent = (Dir.runWorld W (Dir.sendsOf ops)).2 ∧
    (Dir.runWorld W ops).2.filter (fun o => !o.isSent) = (Dir.runWorld W (Dir.recvsOf ops)).2 ∧
    Dir.Established (Dir.shared (Dir.runWorld W ops).1.s) := by
  -- `W` is `⟨assemble (sendSide W.s) (recvSide W.s) (shared W.s), …⟩` by eta; each solo run is taken next to W's own other half
  obtain ⟨h1, h2, h3⟩ := Dir.runWorld_product hE (Dir.sendSide W.s) (Dir.recvSide W.s) W.wire W.sendDead W.recvDead ops
    (Dir.sendSide W.s) (Dir.recvSide W.s) W.wire W.sendDead W.recvDead
  exact ⟨h2, h3, h1 ▸ hE⟩

/-- The frame conditions behind `directions_independent` (this theorem and the next) — on an
    established stream a send operation leaves the receive-side fields and the shared fields (key,
    base IV `encIV`, crypto mode, frozen digests, toggle flag) exactly as they were; symmetrically
    for receive operations. `encIV` is shared: the receiver reads it too, to refuse a first frame
    announcing this endpoint's own IV (F-C02-reflection), and neither direction writes it. -/
theorem send_touches_send_side_only (s : Stream) (hE : Dir.Established (Dir.shared s)) (op : Dir.SendOp)
    (s1 : Stream) (fs : List WireFrame) (h : Dir.applySend s op = .ok (s1, fs)) :
    Dir.recvSide s1 = Dir.recvSide s ∧ Dir.shared s1 = Dir.shared s := by
  rw [Dir.onSend_fix (Dir.applySend_local hE (Dir.sendSide s) (Dir.recvSide s) (Dir.recvSide s) op) h]
  exact ⟨rfl, rfl⟩

theorem recv_touches_recv_side_only (s : Stream) (hE : Dir.Established (Dir.shared s)) (w : List WireFrame)
    (op : Dir.RecvOp) (s1 : Stream) (d : Bytes) (w1 : List WireFrame) (h : Dir.applyRecv s w op = .ok (s1, d, w1)) :
    Dir.sendSide s1 = Dir.sendSide s ∧ Dir.shared s1 = Dir.shared s := by
  rw [Dir.onRecv_fix (Dir.applyRecv_local hE (Dir.sendSide s) (Dir.sendSide s) (Dir.recvSide s) w op) h]
  exact ⟨rfl, rfl⟩

/-- Syntactic tie of `directions_independent` to stream.go: the field footprint
    `FactsLock.streamMethods` of every exported `stream.Stream` method lies within the footprint
    declared next to the model — reads within reads, unconditional writes within writes, guarded
    writes within writes ∪ guarded writes. A method that starts touching another field breaks this
    inclusion (and the race stress then looks for a schedule). -/
theorem footprint_covers_code : Dir.footprintCovers CedarGen.FactsLock.streamMethods = true := by decide +kernel

/-- In the declared footprints, whatever a send-role method may write and a receive-role method may
    touch (or the other way round) is a handshake-digest field or the crypto-for-secret toggle, and
    is written under a guard only; the fields both directions read (key, `encryptIV`, connection,
    crypto mode) are written by no traffic method — the guards (`final…Digest == nil`, `gcm != nil
    && !encrypted`, `secretCryptoOn`) are false on established streams, which is what
    `send_touches_send_side_only` / `recv_touches_recv_side_only` show semantically; observers
    (`IsEncrypted`, `GetPeerAddr`, …) read fields no traffic operation writes unconditionally. -/
theorem footprints_disjoint : Dir.directionsDisjoint = true := by decide +kernel

/-- F-C17-secret-toggle-race: a toggle that assigns the shared crypto-mode fields even when nothing
    changes (`Stream.prepareSecret`) — on an established stream whose `cryptoBeforeSecret` (the fix
    renamed it `secretCryptoOn`) still has its zero value, `PutSecret`'s prepare step writes a field
    the receiving goroutine's `GetSecret` writes too (a write/write race, replayed by the race engine). -/
theorem secret_toggle_old_writes_shared : ∃ s : Stream,
    Dir.Established (Dir.shared s) ∧ Dir.shared (Dir.prepareSecretOld s) ≠ Dir.shared s :=
  ⟨{ key := some 1, encrypted := true, dig := { finalSend := some .zero, finalRecv := some .zero } },
   ⟨rfl, rfl, fun _ => rfl, rfl⟩, by decide⟩

/-- The state `directions_independent` leaves out (`Established` demands that a keyed stream is
    encrypting), and why: on a stream that HOLDS a key but is not encrypting (C09's state),
    `PutSecret`'s prepare step, as the code has it, changes the crypto mode — a field of the
    part both directions read — so a goroutine receiving on the same stream decides whether to
    decrypt by a flag the sending goroutine is flipping. Recorded finding
    F-C17-keyed-plain-secret-toggle (shown on the real streams by the race engine's
    `stream-secret-keyed-plain` workload: data races and disturbed transfers). -/
theorem keyed_plain_secret_writes_shared : ∃ s : Stream,
    (Dir.shared s).finalSend.isSome = true ∧ (Dir.shared s).finalRecv.isSome = true ∧
    s.key.isSome = true ∧ s.encrypted = false ∧ ¬ Dir.Established (Dir.shared s) ∧
    Dir.shared (Dir.prepareSecret s) ≠ Dir.shared s :=
  ⟨{ key := some 1, encrypted := false, dig := { finalSend := some .zero, finalRecv := some .zero } },
   rfl, rfl, rfl, rfl, by intro h; exact absurd (h.2.2.1 rfl) (by decide), by decide⟩

-- the table is not empty and contains the methods the property names
example : (CedarGen.FactsLock.cacheMethods.map (·.1)).contains "SessionCache.InvalidateExpired" = true := by decide +kernel
example : (CedarGen.FactsLock.cacheMethods.map (·.1)).contains "SessionEntry.RenewLease" = true := by decide +kernel
-- the scan rejects a DebugDump that reads expiration under the cache lock only (F-C17-expiration-race)
example : scan fieldGuard [] [.racq "SessionCache", .rd ("SessionCache", "sessions"), .rd ("SessionEntry", "expiration"),
    .rrel "SessionCache"] = false := by decide +kernel
-- and accepts one that takes the entry lock for it
example : bodyOK [.racq "SessionCache", .rd ("SessionCache", "sessions"), .acq "SessionEntry", .rd ("SessionEntry", "expiration"),
    .rel "SessionEntry", .rrel "SessionCache"] = true := by decide +kernel
-- a write under a read lock is rejected
example : scan fieldGuard [] [.racq "SessionCache", .wr ("SessionCache", "sessions"), .rrel "SessionCache"] = false := by decide +kernel
-- the sequential cache: an invalidated id stays away although its command mapping is re-added
example : (Lin.run (fun u => ⟨u % 2, .future⟩) {} [.store 0, .mapCmd 7 0, .invalidate 0, .mapCmd 7 0, .byCmd 7, .lookup 0]).2 =
    [.unit, .unit, .bool true, .unit, .ent none, .ent none] := by decide +kernel
-- an established keyed stream exists, and a send really changes the send side
example : Dir.Established (Dir.shared ((({} : Stream).setKey 1 ⟨5, []⟩))) := ⟨rfl, rfl, fun _ => rfl, rfl⟩
example : (Dir.applySend (({} : Stream).setKey 1 ⟨5, []⟩) (.frame [1, 2] 1)).isOk = true := by decide +kernel

/-- the stream-writing calls the CCB listener may contain: the registration message (sent before
    the reader and the heartbeat of that registration exist) and the one inside `writeToBroker` -/
def declaredBrokerWrites : List (String × String) :=
  [("register", "WriteControlAd"), ("writeToBroker", "WriteControlAd")]

/-- `FactsCCB.brokerWriteSites`: every write to a broker stream in ccb/listener.go happens either in
    `register`, before any other goroutine knows the stream, or inside `writeToBroker`, which holds
    `writeMu` around it — so result writers and the heartbeat never write to the one stream at once
    while the reader runs. -/
theorem broker_writers_serialised :
    CedarGen.FactsCCB.brokerWriteSites.all (fun s => declaredBrokerWrites.contains s) = true ∧
    CedarGen.FactsCCB.writeToBrokerLocked = true := by decide +kernel

end Cedar.C17
