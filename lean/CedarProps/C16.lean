/-
  C16 — A minted claim id and its import yield one shared, working session.

  Reading of the model: `mint o now secret` is `MintClaimSession` with `time.Now() = now` and
  `randomHexKey() = secret`; `importClaim id io now'` is `ImportClaimSession`; `Key.hkdf` is HKDF as a
  free symbol; `resume client server sid t` is a client handshake naming `sid` explicitly against a
  server, both keyed from their caches (symbolic AEAD: data is delivered iff the keys agree).
-/
import CedarProofs.ClaimId

namespace Cedar.C16

open Cedar Cedar.Claim

/-- what the grammar needs of a secret: no '#', no ']' -/
def SecretOk (s : Bytes) : Prop := 35 ∉ s ∧ 93 ∉ s

/-- lowercase hex, the alphabet of `randomHexKey` -/
def HexLower (s : Bytes) : Prop := ∀ b ∈ s, (48 ≤ b.toNat ∧ b.toNat ≤ 57) ∨ (97 ≤ b.toNat ∧ b.toNat ≤ 102)

/-- every secret `randomHexKey` can produce is acceptable to the grammar -/
theorem hex_secret_ok {s : Bytes} (h : HexLower s) : SecretOk s :=
  ⟨fun hm => absurd (h 35 hm) (by decide), fun hm => absurd (h 93 hm) (by decide)⟩

/-- **parse_mint** (clause "claim id grammar split on the last '#'"): for ALL minting options the
    minter accepts — any sinful string (with '#', '[', ']', parameters), any birthdate and sequence
    number — and every hex secret, the strict parser cuts the minted id into exactly the session id
    `<sinful>#bday#seq`, the embedded policy text and the secret. -/
theorem parse_mint {o : MintOpts} {now : Int} {secret : Bytes} {m : Minted}
    (h : mint o now secret = .ok m) (hs : SecretOk secret) :
    parseStrict m.claimId = { sid := m.sid, info := m.info, key := secret } ∧
    m.sid = o.sinful ++ 35 :: (fmtInt o.birthdate ++ 35 :: fmtInt o.seq) ∧
    (parseStrict m.claimId).secSessionId = m.sid := by
  obtain ⟨info, pol, rfl, hE, _, hne, hall⟩ := import_of_mint h
  have hp := (hall secret hs hne {} 0).parse
  obtain ⟨rfl, _⟩ := exportInfo_ok_iff.mp hE
  exact ⟨hp, rfl, hp ▸ rfl⟩

/-- **same_session** (clauses "same session identifier, derived key, policy"; mechanisms "same HKDF
    on both sides", "symmetrical registration"): importing a minted id NEVER fails, and the
    importer's cache entry has the minter's session id, the minter's key `HKDF(secret)` and cipher,
    and a policy that agrees with the minter's on EVERY attribute except `User`, where each side
    records the identity it attributes to the other. For all minting and import options. -/
theorem same_session {o : MintOpts} {now : Int} {secret : Bytes} {m : Minted}
    (h : mint o now secret = .ok m) (hs : SecretOk secret) (io : ImportOpts) (now' : Int) :
    ∃ im, importClaim m.claimId io now' = .ok im ∧
      im.sid = m.sid ∧ im.entry.id = m.entry.id ∧
      im.entry.key = m.entry.key ∧ m.entry.key = .hkdf secret ∧ im.entry.proto = m.entry.proto ∧
      (∀ k, k ≠ nUser → im.entry.policy.lookup k = m.entry.policy.lookup k) ∧
      im.entry.policy.lookup nUser = some (.s (importFQU io)) ∧
      m.entry.policy.lookup nUser = some (.s (mintFQU o)) ∧
      im.entry.inherited = true ∧ m.entry.inherited = true := by
  obtain ⟨info, pol, rfl, _, _, hne, hall⟩ := import_of_mint h
  exact ⟨_, (hall secret hs hne io now').claim, rfl, rfl, rfl, rfl, rfl,
    fun k hk => lookup_finishPolicy_indep_user pol _ _ _ k hk,
    lookup_finishPolicy_nUser .., lookup_finishPolicy_nUser .., rfl, rfl⟩

/-- **expiry_agrees** (clause "same expiry", unconditional part): for all options, either both ends
    expire the session at the same embedded second, or the id carries no usable expiry and each end
    applies only its own local fallback (the minter its `Lifetime`, the importer its `Duration`). -/
theorem expiry_agrees {o : MintOpts} {now : Int} {secret : Bytes} {m : Minted}
    (h : mint o now secret = .ok m) (hs : SecretOk secret) (io : ImportOpts) (now' : Int) :
    ∃ im, importClaim m.claimId io now' = .ok im ∧
      ((∃ s, s > 0 ∧ m.entry.expiry = .unix s ∧ im.entry.expiry = .unix s) ∨
       (m.entry.expiry = fallbackExpiry o.lifetime now ∧ im.entry.expiry = fallbackExpiry io.duration now')) := by
  obtain ⟨info, pol, rfl, _, _, hne, hall⟩ := import_of_mint h
  refine ⟨_, (hall secret hs hne io now').claim, ?_⟩
  simp only [mintResult, importResult, claimExpiration_finish]
  unfold claimExpiration
  cases he : embeddedExpiry pol with
  | none => exact Or.inr ⟨rfl, rfl⟩
  | some secs => exact Or.inl ⟨secs, embeddedExpiry_pos he, rfl, rfl⟩

/-- **policy_carried** (clauses "encryption/integrity/cipher/command policy and expiry", "policy
    export/import as inverse functions"): for well-formed minting options the policy text embedded
    in the id parses back to exactly the minted settings — encryption and integrity toggles, the
    full cipher list (',' restored), the command list, the expiry second, the compact version —
    and the minter's cache entry records them (its cipher is the one actually keyed, AESGCM); the
    importer's entry agrees with it on every attribute except `User` by `same_session`. -/
theorem policy_carried {o : MintOpts} {now : Int} {secret : Bytes} {m : Minted}
    (h : mint o now secret = .ok m) (w : MintWf o now) :
    ∃ pol, importInfo m.info = .ok pol ∧
      pol.nonEmptyStr nEncryption = some (boolYesNo o.encryption) ∧
      pol.nonEmptyStr nIntegrity = some (boolYesNo o.integrity) ∧
      pol.nonEmptyStr nCryptoMethods = some (mintCipher o) ∧
      pol.nonEmptyStr nValidCommands = (if o.validCommands = [] then none else some (joinInts o.validCommands)) ∧
      pol.nonEmptyStr nRemoteVersion = (if o.remoteVersion = [] then none else some (shortVersion o.remoteVersion)) ∧
      pol.lookup nSessionExpires = (if o.lifetime > 0 then some (.s (fmtInt (unixOf (now + o.lifetime)))) else none) ∧
      (∀ k, k ∉ finishNames → m.entry.policy.lookup k = pol.lookup k) ∧
      m.entry.policy.lookup nCryptoMethods = some (.s sAESGCM) := by
  obtain ⟨info, pol, rfl, hE, hI, _, _⟩ := import_of_mint h
  obtain ⟨enc, int, vc, cm, rv, exp⟩ := minted_carries w hE hI
  exact ⟨_, hI, enc, int, cm, vc, rv, exp, fun k hk => lookup_finishPolicy_other _ _ _ k hk,
    lookup_finishPolicy_nCryptoMethods ..⟩

/-- **expiry_lockstep** (clause "same expiry", for a bounded lifetime): when a lifetime is given,
    both ends expire the session at the same absolute second `(now + Lifetime).Unix()`, whatever
    fallback the importer configured; without a lifetime the minter never expires it. -/
theorem expiry_lockstep {o : MintOpts} {now : Int} {secret : Bytes} {m : Minted}
    (h : mint o now secret = .ok m) (hs : SecretOk secret) (w : MintWf o now) (io : ImportOpts) (now' : Int) :
    ∃ im, importClaim m.claimId io now' = .ok im ∧
      (o.lifetime > 0 → m.entry.expiry = .unix (unixOf (now + o.lifetime)) ∧
                        im.entry.expiry = .unix (unixOf (now + o.lifetime))) ∧
      (¬ o.lifetime > 0 → m.entry.expiry = .never ∧ im.entry.expiry = fallbackExpiry io.duration now') := by
  obtain ⟨info, pol, rfl, hE, hI, hne, hall⟩ := import_of_mint h
  refine ⟨_, (hall secret hs hne io now').claim, fun hl => ?_, fun hl => ?_⟩
  · simp only [mintResult, importResult, minted_expiry w hE hI, if_pos hl, and_self]
  · simp only [mintResult, importResult, minted_expiry w hE hI, if_neg hl, fallbackExpiry, and_self]

/-- **info_roundtrip** (clause "the policy text embedded in the identifier survives a render/parse
    round trip"): for well-formed minting options, parsing the embedded text and rendering the
    resulting policy again gives the identical text. -/
theorem info_roundtrip {o : MintOpts} {now : Int} {secret : Bytes} {m : Minted}
    (h : mint o now secret = .ok m) (w : MintWf o now) :
    ∃ pol, importInfo m.info = .ok pol ∧ exportInfo pol = .ok m.info := by
  obtain ⟨info, pol, rfl, hE, hI, _, _⟩ := import_of_mint h
  exact ⟨pol, hI, (reimported_of_mint w hE hI).2⟩

/-- the same round trip for ANY policy whose exported values are well formed (`InfoWf`) — including a
    policy whose `SessionExpires` is a string rather than an integer -/
theorem export_import_export {p : Policy} (w : InfoWf p) {t : Bytes} (h : exportInfo p = .ok t) :
    ∃ q, importInfo t = .ok q ∧ exportInfo q = .ok t :=
  ⟨_, (exportInfo_roundtrip w h).1, (exportInfo_roundtrip w h).2⟩

/-- **different_secret_different_key** (clause "an importer holding a different secret cannot"):
    an importer holding the same id with ANY different (non-empty, '#'/']'-free) secret obtains the
    same session id but a different key. -/
theorem different_secret_different_key {o : MintOpts} {now : Int} {secret secret' : Bytes} {m : Minted}
    (h : mint o now secret = .ok m) (hs' : SecretOk secret') (hne' : secret' ≠ []) (hdiff : secret' ≠ secret)
    (io : ImportOpts) (now' : Int) :
    ∃ im, importClaim (m.sid ++ 35 :: (m.info ++ secret')) io now' = .ok im ∧
      im.sid = m.sid ∧ im.entry.key = .hkdf secret' ∧ im.entry.key ≠ m.entry.key := by
  obtain ⟨info, pol, rfl, _, _, _, hall⟩ := import_of_mint h
  exact ⟨_, (hall secret' hs' hne' io now').claim, rfl, rfl, fun e => hdiff (Key.hkdf.inj e)⟩

/-- **corrupt_secret** (quantifier "single-character corruptions of the secret"): replace ONE
    character of the secret inside the minted id by ANY other byte — hex or not, '#' and ']'
    included. Then the import either fails or registers a session whose key differs from the
    minter's. -/
theorem corrupt_secret {o : MintOpts} {now : Int} {pre post : Bytes} {y x : UInt8} {m : Minted}
    (h : mint o now (pre ++ y :: post) = .ok m) (hs : SecretOk (pre ++ y :: post)) (hx : x ≠ y)
    (io : ImportOpts) (now' : Int) (im : Imported)
    (hi : importClaim (m.sid ++ 35 :: (m.info ++ (pre ++ x :: post))) io now' = .ok im) :
    im.entry.key ≠ m.entry.key := by
  obtain ⟨info, pol, rfl, _⟩ := import_of_mint h
  obtain ⟨_, _, _, _, rfl⟩ := importClaim_of_ok hi
  intro e
  exact parseStrict_key_ne (sessionIdOf o ++ 35 :: info) pre post hx (by simpa [mintResult] using Key.hkdf.inj e)

/-- **resumes_both_directions** (clause "either can open a connection to the other that resumes
    that session with no fresh handshake"): whatever else the two caches hold, once the minter has
    stored its entry and the importer its own, a client on EITHER side naming the session id finds
    it, the server on the other side finds it under the same id, no negotiation or authentication
    takes place, and data is delivered — at every instant at which the entries are not expired. -/
theorem resumes_both_directions {o : MintOpts} {now : Int} {secret : Bytes} {m : Minted}
    (h : mint o now secret = .ok m) (hs : SecretOk secret) (io : ImportOpts) (now' : Int) (cM cI : Cache) (t : Int) :
    ∃ im, importClaim m.claimId io now' = .ok im ∧
      (m.entry.expiry.expiredAt t = false → im.entry.expiry.expiredAt t = false →
        resume (cI.store im.entry) (cM.store m.entry) m.sid t = .resumed true ∧
        resume (cM.store m.entry) (cI.store im.entry) m.sid t = .resumed true) := by
  obtain ⟨info, pol, rfl, _, _, hne, hall⟩ := import_of_mint h
  exact ⟨_, (hall secret hs hne io now').claim, fun h1 h2 =>
    ⟨resume_stored cI cM t rfl rfl h2 h1 rfl, resume_stored cM cI t rfl rfl h1 h2 rfl⟩⟩

/-- **wrong_secret_never_delivers** (clause "while an importer holding a different secret cannot"):
    an endpoint whose cache entry for the session id was imported with a different secret may
    complete the (cleartext, unconfirmed) resumption exchange, but no data is delivered in either
    direction, at any time, whatever else the caches hold. -/
theorem wrong_secret_never_delivers {o : MintOpts} {now : Int} {secret secret' : Bytes} {m : Minted}
    (h : mint o now secret = .ok m) (hs' : SecretOk secret') (hne' : secret' ≠ []) (hdiff : secret' ≠ secret)
    (io : ImportOpts) (now' : Int) (cM cW : Cache) (t : Int) :
    ∃ w, importClaim (m.sid ++ 35 :: (m.info ++ secret')) io now' = .ok w ∧
      resume (cW.store w.entry) (cM.store m.entry) m.sid t ≠ .resumed true ∧
      resume (cM.store m.entry) (cW.store w.entry) m.sid t ≠ .resumed true := by
  obtain ⟨info, pol, rfl, _, _, _, hall⟩ := import_of_mint h
  have hk : Key.hkdf secret' ≠ Key.hkdf secret := fun e => hdiff (Key.hkdf.inj e)
  exact ⟨_, (hall secret' hs' hne' io now').claim, resume_stored_ne cW cM t rfl rfl hk,
    resume_stored_ne cM cW t rfl rfl hk.symm⟩

/-- **public_independent_of_secret** (clause "the loggable public form never contains the secret"),
    as non-interference: the public form is a function of the minting options alone — two mints of
    the same options with different secrets have the same public form, namely `<sid>#...`; the
    public form the parser derives from the full id is the same text. -/
theorem public_independent_of_secret {o : MintOpts} {now now2 : Int} {s1 s2 : Bytes} {m1 m2 : Minted}
    (h1 : mint o now s1 = .ok m1) (h2 : mint o now2 s2 = .ok m2) (hs : SecretOk s1) :
    m1.publicId = m2.publicId ∧ m1.publicId = sessionIdOf o ++ b!"#..." ∧
    (parseStrict m1.claimId).publicId = m1.publicId := by
  obtain ⟨_, _, rfl, _⟩ := import_of_mint h2
  have hp := (parse_mint h1 hs).1
  obtain ⟨_, _, rfl, _⟩ := import_of_mint h1
  exact ⟨rfl, rfl, hp ▸ if_neg (sessionIdOf_ne_nil o)⟩

/-- **filetrans_shared** (mechanism "symmetrical registration … ImportFileTransferSession"): any two
    holders of a minted id derive the same file-transfer session `filetrans.<sid>` keyed on the same
    `HKDF(secret)`. -/
theorem filetrans_shared {o : MintOpts} {now : Int} {secret : Bytes} {m : Minted}
    (h : mint o now secret = .ok m) (hs : SecretOk secret) (io1 io2 : ImportOpts) (t1 t2 : Int) :
    ∃ f1 f2, importFileTransfer m.claimId io1 t1 = .ok f1 ∧ importFileTransfer m.claimId io2 t2 = .ok f2 ∧
      f1.sid = str CedarGen.security.fileTransferSessionPrefix ++ m.sid ∧ f2.sid = f1.sid ∧
      f1.entry.id = f1.sid ∧ f2.entry.id = f1.sid ∧
      f1.entry.key = .hkdf secret ∧ f2.entry.key = .hkdf secret := by
  obtain ⟨info, pol, rfl, _, _, hne, hall⟩ := import_of_mint h
  exact ⟨_, _, (hall secret hs hne io1 t1).fileTransfer, (hall secret hs hne io2 t2).fileTransfer, rfl, rfl, rfl, rfl, rfl, rfl⟩

/-! Non-vacuity: concrete mints in the quantified domain — a sinful with '#', brackets and
    parameters, a cipher list, a long-form version, commands and a lifetime — succeed, satisfy the
    hypotheses, and the conclusions can be observed by evaluation. -/

def demoOpts : MintOpts :=
  { sinful := b!"<[::1]:9618?addrs=[--1]-9618&sock=slot1#7>", birthdate := 1700000000, seq := 7
    cryptoMethods := b!"AES,BLOWFISH", validCommands := [443, 444], lifetime := 3600000000000
    remoteVersion := b!"$CondorVersion: 25.4.0 2025-10-31 $", integrity := some false }

def demoNow : Int := 1790000000123456789
def demoSecret : Bytes := b!"00ff17a9"

example : (mint demoOpts demoNow demoSecret).toOption.map (·.info) =
    some b!"[CryptoMethods=\"AES\";CryptoMethodsList=\"AES.BLOWFISH\";Encryption=\"YES\";Integrity=\"NO\";SessionExpires=1790003600;ShortVersion=\"25.4.0\";ValidCommands=\"443,444\";]" := by
  decide +kernel

example : HexLower demoSecret := by unfold HexLower; decide +kernel

example : MintWf demoOpts demoNow := by
  refine ⟨by decide +kernel, Or.inr ?_, fun _ => by decide +kernel⟩
  exact VersionWf.long b!"$CondorVersion:" b!"25.4.0" b!"2025-10-31 $" 50 b!"5.4.0"
    (by decide +kernel) (by decide +kernel) (by decide +kernel) rfl (by decide +kernel) (by decide +kernel) (by decide +kernel) (by decide +kernel) (by decide +kernel) (by decide +kernel)

-- mint, import on the other side, resume in both directions at a later instant
set_option maxRecDepth 20000 in
example :
    (match mint demoOpts demoNow demoSecret with
     | .ok m =>
       (match importClaim m.claimId { peerAddr := b!"<[::1]:9618>" } (demoNow + 5) with
        | .ok im => decide (resume [im.entry] [m.entry] m.sid (demoNow + 9) = .resumed true) &&
                    decide (resume [m.entry] [im.entry] m.sid (demoNow + 9) = .resumed true) &&
                    decide (m.entry.expiry = .unix 1790003600) && decide (im.entry.expiry = .unix 1790003600)
        | .error _ => false)
     | .error _ => false) = true := by decide +kernel

-- a one-character corruption of the secret: imported, resumed, nothing delivered
set_option maxRecDepth 20000 in
example :
    (match mint demoOpts demoNow demoSecret with
     | .ok m =>
       (match importClaim (m.sid ++ 35 :: (m.info ++ b!"00ff17a8")) {} (demoNow + 5) with
        | .ok w => decide (resume [w.entry] [m.entry] m.sid (demoNow + 9) = .resumed false)
        | .error _ => false)
     | .error _ => false) = true := by decide +kernel

/-- a cipher list whose first method is not AES is refused by the minter -/
example : (match mint { demoOpts with cryptoMethods := b!"BLOWFISH,AES" } demoNow demoSecret with
    | .error .refused => true
    | _ => false) = true := by decide +kernel

end Cedar.C16
