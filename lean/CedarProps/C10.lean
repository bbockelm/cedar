/-
  C10 — Honest peers negotiate by the policy table and agree on the result.
-/
import CedarProofs.DecisionsTie
import CedarProofs.HandshakeLemmas
import CedarProofs.LoopComplete

namespace Cedar.C10
open Cedar Cedar.HS

def lvl : Fin 4 → String
  | 0 => lvlRequired | 1 => lvlPreferred | 2 => lvlOptional | 3 => lvlNever

/-- The decision table, written from the property text (independent of `negotiateSecurity`):
    `none` = the handshake fails; `some (authRuns, encOn)` otherwise. `haveAuth` / `haveCrypto`:
    a mutually usable authentication method / a common cipher exists. -/
def table (sa ca se ce : Fin 4) (haveAuth haveCrypto : Bool) : Option (Bool × Bool) :=
  let req (a b : Fin 4) : Bool := a == 0 || b == 0
  let nev (a b : Fin 4) : Bool := a == 3 || b == 3
  let pref (a b : Fin 4) : Bool := a == 1 || b == 1
  if (req sa ca && nev sa ca) || (req se ce && nev se ce) ||
     (req sa ca && !haveAuth) || (req se ce && !haveCrypto) then none
  else some (req sa ca || (!nev sa ca && pref sa ca && haveAuth),
             req se ce || (!nev se ce && pref se ce && haveCrypto))

def agrees (r : Option NegErr × Bool × Bool) (t : Option (Bool × Bool)) : Bool :=
  match r, t with
  | (some _, _, _), none => true
  | (none, a, e), some (a', e') => a == a' && e == e'
  | _, _ => false

/-- the level logic: for all 4^4 level combinations and both values of
    "a usable common method / cipher exists", the server's `negotiateSecurity` fails exactly when
    the table says so, and otherwise decides to authenticate / encrypt exactly as the table says:
    authentication runs iff either side requires it, or either prefers it while neither forbids it
    and a usable method exists; likewise encryption. -/
theorem honest_matches_spec : ∀ (sa ca se ce : Fin 4) (ha hc : Bool),
    agrees (negotiateCore (lvl sa) (lvl ca) (lvl se) (lvl ce) ha hc) (table sa ca se ce ha hc) = true := by
  decide +kernel

/-- lifting to arbitrary method and cipher lists: `negotiateSecurity` is `negotiateCore` applied to
    "is there a first common implemented method" / "is there a first common cipher". -/
theorem negotiate_is_core (srv cli : View) :
    let negAuth := (firstCommon (fun m => implemented m && m != authNone) srv.methods cli.methods).getD authNone
    let negCrypto := (firstCommon (fun _ => true) srv.ciphers cli.ciphers).getD ""
    (negotiate srv cli).2 = (negotiateCore srv.auth cli.auth srv.enc cli.enc (negAuth != authNone) (negCrypto != "")).1 ∧
    (negotiate srv cli).1.authentication = (negotiateCore srv.auth cli.auth srv.enc cli.enc (negAuth != authNone) (negCrypto != "")).2.1 ∧
    (negotiate srv cli).1.encryption = (negotiateCore srv.auth cli.auth srv.enc cli.enc (negAuth != authNone) (negCrypto != "")).2.2 :=
  ⟨rfl, rfl, rfl⟩

/-- the negotiated method is listed by both sides, is implemented by
    this build and is not NONE (F-C10-password-common) -/
theorem negotiated_method_common (srv cli : View) (m : String)
    (h : firstCommon (fun m => implemented m && m != authNone) srv.methods cli.methods = some m) :
    m ∈ srv.methods ∧ m ∈ cli.methods ∧ implemented m = true ∧ m ≠ authNone := by
  unfold firstCommon at h
  have hm := List.mem_of_find?_eq_some h
  have hp := List.find?_some h
  simp only [Bool.and_eq_true, bne_iff_ne, ne_eq] at hp
  exact ⟨hm, by simpa using hp.2, hp.1.1, hp.1.2⟩

/-- the client's own run of `negotiateSecurity` over an honest server's "YES"/"NO" response never
    contradicts the server's successful decision (so the client proceeds where the server does) -/
theorem client_view_consistent : ∀ (sa ca se ce : Fin 4) (ha hc : Bool),
    (negotiateCore (lvl sa) (lvl ca) (lvl se) (lvl ce) ha hc).1 = none →
    let a := (negotiateCore (lvl sa) (lvl ca) (lvl se) (lvl ce) ha hc).2.1
    let e := (negotiateCore (lvl sa) (lvl ca) (lvl se) (lvl ce) ha hc).2.2
    (negotiateCore (if a then "YES" else "NO") (lvl ca) (if e then "YES" else "NO") (lvl ce) ha hc).1 = none := by
  decide +kernel

/-- the joint authentication loop is sound: success means the method is one both sides list and
    the exchange succeeded with the parties' credentials -/
theorem jointLoop_success {offered own : List String} {credOK : String → Bool} :
    ∀ (fuel mask : Nat) (ran : List (String × Bool)) (m : String) (ran' : List (String × Bool)),
      jointLoop offered own credOK fuel mask ran = .success m ran' →
      m ∈ offered ∧ m ∈ own ∧ credOK m = true ∧ (m, true) ∈ ran' := by
  intro fuel
  induction fuel with
  | zero => intro mask ran m ran' h; cases h
  | succ fuel ih =>
    intro mask ran m ran' h
    rw [jointLoop] at h
    obtain ⟨_, h⟩ := ite_else_of_ne h nofun
    split at h
    · cases h
    rename_i mS hS
    simp only at h
    split at h
    · cases h
    rename_i mC hC
    by_cases hok : mS = mC ∧ credOK mC = true
    · rw [if_pos hok] at h; cases h
      exact ⟨List.mem_of_find?_eq_some hC, hok.1 ▸ List.mem_of_find?_eq_some hS, hok.2, by simp⟩
    · rw [if_neg hok] at h
      exact ih _ _ m ran' h

/-- whenever both honest endpoints succeed they report the same authentication
    and encryption outcome and the same session identifier, hold the same key, and ran the same
    exchanges (so they can immediately exchange messages both ways: C01/C02 over the shared key). -/
theorem honest_agree (c : ClientCfg) (s : ServerCfg) (credOK : String → Bool) (user sid : String)
    (co so : Outcome)
    (hc : (honestRun c s credOK user sid).client = .ok co)
    (hs : (honestRun c s credOK user sid).server = .ok so) :
    co.reportedAuth = so.reportedAuth ∧ co.reportedEnc = so.reportedEnc ∧ co.sid = so.sid ∧
    co.streamKey = so.streamKey ∧ co.reportedMethod = so.reportedMethod ∧ co.ran = so.ran := by
  obtain ⟨d, dc, didAuth, method, ran, kc, ks, _, _, hauth, hkc, hks, hk, rfl, rfl⟩ := honestRun_ok hc hs
  exact ⟨honestAuthPhase_flag hauth, hk, rfl, setupEnc_keys_agree hkc hks hk, rfl, rfl⟩

def cReq : ClientCfg := { auth := lvlRequired, enc := lvlOptional, integ := lvlOptional, methods := ["CLAIMTOBE"], ciphers := ["AES"] }
def sOpt : ServerCfg := { auth := lvlOptional, enc := lvlOptional, integ := lvlOptional, methods := ["PASSWORD", "CLAIMTOBE"], ciphers := ["AES"] }
example : (honestRun cReq sOpt (fun m => m == "CLAIMTOBE") "u" "sid").client.isOk = true := by decide +kernel
example : (honestRun { cReq with methods := ["PASSWORD"], auth := lvlPreferred } sOpt (fun _ => false) "u" "sid").client.isOk = true := by decide +kernel
example : (honestRun { cReq with methods := ["PASSWORD"] } sOpt (fun _ => false) "u" "sid").denied = true := by decide +kernel

/-- the bitmask retry loop of two honest endpoints (client offers the
    remaining mask, server answers with the first of its methods in it, both run it, a failed method
    is removed from the mask) ends in success with a method that works, WHENEVER some offered method
    works with the two parties' credentials — for every server order, every client order and any
    number of failing methods tried first. Hypothesis `BitSys`: the methods in play have distinct
    single-bit mask values (true of every implemented method except that TOKEN and IDTOKENS, two
    spellings of one method running one exchange, share a bit; F-C10-idtokens-bit). -/
theorem retry_loop_complete (own offered : List String) (credOK : String → Bool)
    (hs : BitSys own offered) (hgood : ∃ g, g ∈ offered ∧ credOK g = true) :
    ∃ m ran, jointLoop offered own credOK (offered.length + 1) (bitmaskOf offered) [] = .success m ran ∧
      credOK m = true ∧ m ∈ offered ∧ m ∈ own := by
  obtain ⟨g, hg, hgc⟩ := hgood
  obtain ⟨m, ran, h, hc⟩ := jointLoop_complete hs g hg hgc (offered.length + 1) _ [] [] (loopInv_init credOK hs)
    (Nat.lt_succ_of_le (List.length_filter_le _ _))
  obtain ⟨h1, h2, _, _⟩ := jointLoop_success _ _ _ _ _ h
  exact ⟨m, ran, h, hc, h1, h2⟩

/-- the same at the level of the whole authentication phase of two honest endpoints -/
theorem honest_auth_complete (c : ClientCfg) (s : ServerCfg) (d : Decision) (credOK : String → Bool)
    (hd : d.authentication = true)
    (hs : BitSys s.methods (c.methods.filter (fun m => s.methods.contains m && (!isTokenMethod m || c.tokenCompat))))
    (hgood : ∃ g, g ∈ c.methods.filter (fun m => s.methods.contains m && (!isTokenMethod m || c.tokenCompat)) ∧ credOK g = true) :
    ∃ m ran, honestAuthPhase c s d credOK = .ok (true, m, ran) ∧ credOK m = true := by
  obtain ⟨m, ran, h, hc, _, _⟩ := retry_loop_complete _ _ credOK hs hgood
  obtain ⟨g, hg, _⟩ := hgood
  refine ⟨m, ran, ?_, hc⟩
  unfold honestAuthPhase
  simp only [hd, Bool.not_true, Bool.false_eq_true, if_false, List.ne_nil_of_mem (hs.sub g hg), List.ne_nil_of_mem hg]
  rw [h]

/-- non-vacuity: the hypothesis holds for the methods that have a mask bit (one of the two token spellings) -/
example : BitSys ["FS", "TOKEN", "KERBEROS", "SCITOKENS", "SSL", "CLAIMTOBE", "PASSWORD"] ["SSL", "PASSWORD", "FS", "CLAIMTOBE"] :=
  bitSys_of_check (by decide +kernel)
/-- and fails, as it must, when both spellings of the shared bit are listed -/
example : bitSysCheck ["TOKEN", "IDTOKENS"] ["TOKEN"] = false := by decide +kernel
/-- a run: the server prefers FS and KERBEROS, which fail between these two parties; SSL works -/
example : (match jointLoop ["SSL", "FS", "KERBEROS"] ["FS", "KERBEROS", "SSL"] (fun m => m == "SSL") 4
      (bitmaskOf ["SSL", "FS", "KERBEROS"]) [] with
    | .success m ran => (m, ran)
    | _ => ("", [])) = ("SSL", [("FS", false), ("KERBEROS", false), ("SSL", true)]) := by decide +kernel

/-- method / cipher list shapes of the quantifier (equal, disjoint, overlapping in both orders, empty on
    either side, the unimplemented PASSWORD only / first, two usable methods in both orders, no common
    cipher): `(client methods, server methods, client ciphers, server ciphers)` -/
def shapes : List (List String × List String × List String × List String) :=
  [ (["CLAIMTOBE"], ["CLAIMTOBE"], ["AES"], ["AES"]),
    (["PASSWORD"], ["PASSWORD"], ["AES"], ["AES"]),
    (["CLAIMTOBE"], ["PASSWORD"], ["AES"], ["AES"]),
    (["CLAIMTOBE", "PASSWORD"], ["PASSWORD", "CLAIMTOBE"], ["AES"], ["AES"]),
    (["CLAIMTOBE"], ["CLAIMTOBE"], ["AES"], ["3DES"]),
    ([], ["CLAIMTOBE"], ["AES"], ["AES"]),
    (["CLAIMTOBE"], [], ["AES"], ["AES"]),
    (["FS", "CLAIMTOBE"], ["FS", "CLAIMTOBE"], ["AES"], ["AES"]),
    (["CLAIMTOBE", "FS"], ["FS", "CLAIMTOBE"], ["AES"], []) ]

/-- does a method exist that both list, that this build implements and that works between the two
    parties (`credOK`); does a common cipher exist — written without `negotiateSecurity` -/
def usableMethod (cm sm : List String) (credOK : String → Bool) : Bool :=
  sm.any (fun m => cm.contains m && credOK m && m != "PASSWORD" && m != "NONE")
def commonCipher (cc sc : List String) : Bool := sc.any (fun x => cc.contains x)

/-- one cell of the matrix run through `honestRun`, compared with the table: the handshake fails on
    both ends exactly when the table says so, and then — and only then — the client holds an
    explicit denial; otherwise both succeed, authentication ran / encryption is on as the table
    says (encryption at least), and both report the same flags -/
def cellOK (sa ca se ce : Fin 4) (sh : List String × List String × List String × List String)
    (credOK : String → Bool) : Bool :=
  let c : ClientCfg := { auth := lvl ca, enc := lvl ce, integ := lvlOptional, methods := sh.1, ciphers := sh.2.2.1 }
  let s : ServerCfg := { auth := lvl sa, enc := lvl se, integ := lvlOptional, methods := sh.2.1, ciphers := sh.2.2.2 }
  let r := honestRun c s credOK "u" "sid"
  match table sa ca se ce (usableMethod sh.1 sh.2.1 credOK) (commonCipher sh.2.2.1 sh.2.2.2), r.client, r.server with
  | none, .error _, .error _ => r.denied
  | some (a, e), .ok co, .ok so =>
    !r.denied && co.reportedAuth == a && so.reportedAuth == a && (!e || (co.streamKey.isSome && so.streamKey.isSome)) &&
      co.reportedEnc == so.reportedEnc && co.sid == so.sid
  | _, _, _ => false

/-- for all 4^4 level combinations, every list shape above and the
    credentials "CLAIMTOBE works, FS does not" (so that in the two-method shapes the first common
    method fails on the wire and the second completes): the WHOLE handshake of two honest endpoints —
    both negotiations, the retry loop, both key set-ups, the post-authentication step — succeeds iff
    the table does not say fail, with the table's outcome, and the client is explicitly denied
    exactly in the failing cells. (`honest_matches_spec` + `negotiate_is_core` +
    `honest_auth_complete` are the statements for arbitrary lists.) -/
theorem honest_run_matches_table : ∀ (sa ca se ce : Fin 4), ∀ sh ∈ shapes,
    cellOK sa ca se ce sh (fun m => m == "CLAIMTOBE") = true := by
  decide +kernel

/-- a cell in which the code does NOT follow the table
    (recorded finding F-C10-preferred-auth-fails-late): nobody requires authentication, the server
    prefers it, the only commonly listed method (FS) cannot complete between the two parties. No
    mutually usable method exists, so the table says: success, unauthenticated. `honestRun` — which
    the `matrix` engine compares with two real endpoints cell by cell, this shape included — decides
    to authenticate because a common method is LISTED, the exchange fails on the wire, the client
    gives up and both ends fail, without a denial. (`honest_run_matches_table` above does not cover
    it: in each of its shapes some listed method completes.) -/
theorem preferred_failing_method_fails_late :
    let c : ClientCfg := { auth := lvl 2, enc := lvl 2, integ := lvlOptional, methods := ["FS"], ciphers := ["AES"] }
    let s : ServerCfg := { auth := lvl 1, enc := lvl 2, integ := lvlOptional, methods := ["FS"], ciphers := ["AES"] }
    let r := honestRun c s (fun _ => false) "u" "sid"
    table 1 2 2 2 (usableMethod ["FS"] ["FS"] (fun _ => false)) (commonCipher ["AES"] ["AES"]) = some (false, false) ∧
    (match r.client, r.server with | .error _, .error _ => true | _, _ => false) = true ∧ r.denied = false := by
  decide +kernel

/-- the same cell when the listed method works: success, authenticated — the failure above is the
    run-time failure of the method, not the policy -/
example : cellOK 1 2 2 2 (["FS"], ["FS"], ["AES"], ["AES"]) (fun m => m == "FS") = true := by decide +kernel

/-- the server answers with the explicit denial (and fails) exactly when its
    `negotiateSecurity` fails — never a bare close for a policy mismatch -/
theorem server_denies_iff (cfg : ServerCfg) (cli : ClientScript) (sid : String) :
    (∃ e d, serverFull cfg cli sid = .denied e d) ↔
    (negotiate ⟨cfg.auth, cfg.enc, cfg.methods, cfg.ciphers⟩ ⟨cli.auth, cli.enc, cli.methods, cli.ciphers⟩).2 ≠ none := by
  unfold serverFull
  rcases hneg : negotiate ⟨cfg.auth, cfg.enc, cfg.methods, cfg.ciphers⟩ ⟨cli.auth, cli.enc, cli.methods, cli.ciphers⟩ with ⟨d, nerr⟩
  cases nerr with
  | some e => exact ⟨fun _ => nofun, fun _ => ⟨e, d, rfl⟩⟩
  | none =>
    refine ⟨fun ⟨e, d', h⟩ => ?_, fun h => absurd rfl h⟩
    -- past the negotiation no branch answers with a denial: the authentication phase fails (`.failed`)
    -- or goes on to the key set-up, which fails (`.failed`) or ends the handshake (`.ok`)
    dsimp only at h
    split at h
    · cases h
    · split at h
      · cases h
      · cases h

/-- a client that receives a negotiation response whose ReturnCode is set
    and is not AUTHORIZED fails with the "refused by the server" class — whatever else the response
    says, whatever its own policy: the denial is a MESSAGE the client acts on, not a closed socket -/
theorem client_reads_denial (cfg : ClientCfg) (srv : ServerScript) (rc : String)
    (h : srv.returnCode = some rc) (h1 : rc ≠ "") (h2 : rc ≠ "AUTHORIZED") :
    clientFull cfg srv = .error .refused :=
  clientFull_rejected (by simp [rcRejected, h, h1, h2])

/-- the session identifier is chosen by the server (`sid` is its fresh draw) -/
theorem server_mints_sid (cfg : ServerCfg) (cli : ClientScript) (sid : String) (o : Outcome) (d : Decision)
    (h : serverFull cfg cli sid = .ok o d) : o.sid = sid :=
  (serverFull_ok h).sid

/-- … and the client's comes out of the post-authentication ad it READ — so "both report the same
    session identifier" is the statement that the ad carries the server's -/
theorem client_learns_sid (cfg : ClientCfg) (srv : ServerScript) (o : Outcome) (h : clientFull cfg srv = .ok o) :
    ∃ pa, srv.postAuth = some pa ∧ o.sid = pa.sid ∧ o.user = pa.user ∧ pa.sealed = o.streamKey.isSome := by
  obtain ⟨_, pa, hk⟩ := clientFull_ok h
  exact ⟨pa, hk.postAuth, hk.sid, hk.user, hk.sealed⟩

/-- tie T: the level logic the theorems above reason about, `negotiateCore`, IS
    the code of `security.negotiateSecurity` — for ALL level strings (the four standard levels, the
    empty string of an unset field, whatever a peer sends), both search outcomes, every combination:
    it equals `CedarGen.Decisions.negotiateSecurity`, the definition `tools/gen` (trans.go) translates
    statement by statement from the Go source on every run (error return k ↦ `errOf k`; the
    `Authentication` and `Encryption` fields of the negotiation as assigned on that path). A change
    of the decision logic in Go changes the generated definition and this proof no longer checks. -/
theorem core_is_the_code (sa ca se ce : String) (ha hc : Bool) :
    negotiateCore sa ca se ce ha hc =
      (let g := CedarGen.Decisions.negotiateSecurity sa ca se ce ha hc
       (Cedar.Tie.errOf g.ret, g.authentication, g.encryption)) :=
  Cedar.Tie.core_eq_gen sa ca se ce ha hc

/-- non-vacuity (tests): the generated code on three inputs, one with an unset level -/
example : (CedarGen.Decisions.negotiateSecurity "REQUIRED" "NEVER" "OPTIONAL" "OPTIONAL" true true).ret = 1 := by decide +kernel
example : CedarGen.Decisions.negotiateSecurity "PREFERRED" "" "OPTIONAL" "REQUIRED" true true = ⟨0, true, true, true⟩ := by decide +kernel
example : (CedarGen.Decisions.negotiateSecurity "OPTIONAL" "OPTIONAL" "PREFERRED" "OPTIONAL" true false).encryption = false := by decide +kernel

end Cedar.C10
