/-
  C18 — Filesystem authentication cannot be steered outside its directory.
  Modelled: validateFSAuthPath, fsAddrLeaf, verifyFSPathEndpoint, the client exchange with its
  filesystem-effect log, the server's verification of the Lstat result.
-/
import CedarProofs.FsPathLemmas

namespace Cedar.C18

open Cedar Cedar.FsPath

/-- **validate_shape** (clause "only one whose path lies directly under the fixed temporary base
    directory with a name of the recognised shapes, and, for address-qualified names, naming the
    server endpoint it is really connected to"). For EVERY byte string `p`, mode and connection
    address: if the validator accepts `p` and returns `leaf`, then `p` is literally
    `fsAuthBaseDir ++ "/" ++ leaf`, `leaf` is a single non-empty component (no `/`, no NUL, not `.`
    or `..`), and `leaf` has one of the three recognised shapes — the address-qualified one only
    with the connection's own endpoint (same port string, same 16-byte address). -/
theorem validate_shape (p : Bytes) (remote : Bool) (peer : Peer) (leaf : Bytes)
    (h : validate p remote peer = .ok leaf) :
    p = baseDir ++ slash :: leaf ∧ leaf ≠ [] ∧ slash ∉ leaf ∧ (0 : UInt8) ∉ leaf ∧
    leaf ≠ dot ∧ leaf ≠ dotdot ∧ Recognised remote peer leaf := by
  obtain ⟨habs, hcl, hdir, rfl, hs, hz, hd, hdd, hshape⟩ := validate_of_ok h
  obtain ⟨hp, hne⟩ := eq_dir_slash_base habs hcl (hdir ▸ baseDir_getLast) hd hdd
  refine ⟨hdir ▸ hp, hne, hs, hz, hd, hdd, ?_⟩
  rcases hshape with ⟨ip, port, ha, he⟩ | ⟨_, hm⟩
  · obtain ⟨r, hl, _, h1, h5, hdig, hr⟩ := fsAddrLeaf_of_some ha
    obtain ⟨ph, a, hpeer, hi1, hi2⟩ := verifyEndpoint_of_ok he
    exact Or.inl ⟨ip, port, r, ph, a, hl, hpeer, hi1, hi2, h1, h5, hdig, hr⟩
  · cases remote with
    | false =>
      rw [if_neg Bool.false_ne_true] at hm
      exact Or.inr (Or.inl ⟨rfl, matchLocalRE_iff.mp hm⟩)
    | true =>
      rw [if_pos rfl] at hm
      exact Or.inr (Or.inr ⟨rfl, remoteShape_of_matchRemoteRE hm⟩)

/-- **addr_qualified_names_peer** (clause "for address-qualified names, naming the server endpoint it
    is really connected to"): a leaf that parses as address-qualified (`fsAddrLeaf` recognises it) is
    accepted ONLY with the connection's endpoint — it never falls through to the historical shapes. -/
theorem addr_qualified_names_peer (p : Bytes) (remote : Bool) (peer : Peer) (leaf ip port : Bytes)
    (h : validate p remote peer = .ok leaf) (ha : fsAddrLeaf leaf remote = some (ip, port)) :
    ∃ ph a, peer = .hp ph port ∧ parseIP ip = some a ∧ parseIP ph = some a := by
  obtain ⟨_, _, _, _, _, _, _, _, hshape⟩ := validate_of_ok h
  obtain ⟨ip', port', ha', he⟩ := hshape.resolve_right fun hn => nomatch ha.symm.trans hn.1
  cases ha.symm.trans ha'
  exact verifyEndpoint_of_ok he

/-- **rejects_everything_else** (clause "any other server-supplied path - relative, non-canonical,
    nested, traversing or merely differently named"): a path that is not `base/leaf` with a recognised
    single-component leaf is rejected; the five theorems after it are the named kinds. -/
theorem rejects_everything_else (p : Bytes) (remote : Bool) (peer : Peer)
    (h : ¬ ∃ leaf, p = baseDir ++ slash :: leaf ∧ slash ∉ leaf ∧ Recognised remote peer leaf) :
    ∃ e, validate p remote peer = .error e :=
  except_error_of_not_ok _ fun leaf hv =>
    have ⟨hp, _, hs, _, _, _, hr⟩ := validate_shape p remote peer leaf hv
    h ⟨leaf, hp, hs, hr⟩

theorem rejects_relative (p : Bytes) (remote : Bool) (peer : Peer) (h : p.head? ≠ some slash) :
    ∃ e, validate p remote peer = .error e := by
  apply rejects_everything_else
  rintro ⟨leaf, hp, _⟩
  exact h (by rw [hp, List.head?_append, baseDir_head]; rfl)

/-- doubled or trailing slashes, `.` and `..` components, … -/
theorem rejects_noncanonical (p : Bytes) (remote : Bool) (peer : Peer) (h : clean p ≠ p) :
    validate p remote peer = .error .empty ∨ validate p remote peer = .error .notAbs ∨
    validate p remote peer = .error .notClean := by
  unfold validate
  by_cases h1 : p = []
  · rw [if_pos h1]; exact Or.inl rfl
  · rw [if_neg h1]
    by_cases h2 : isAbs p = false
    · rw [if_pos h2]; exact Or.inr (Or.inl rfl)
    · rw [if_neg h2, if_pos h]; exact Or.inr (Or.inr rfl)

theorem rejects_nested (a b : Bytes) (remote : Bool) (peer : Peer) :
    ∃ e, validate (baseDir ++ slash :: (a ++ slash :: b)) remote peer = .error e := by
  apply rejects_everything_else
  rintro ⟨leaf, hp, hs, _⟩
  have := List.append_cancel_left hp
  injection this with _ h2
  exact hs (by rw [← h2]; simp)

theorem rejects_other_parent (d l : Bytes) (remote : Bool) (peer : Peer) (hl : slash ∉ l) (hd : d ≠ baseDir) :
    ∃ e, validate (d ++ slash :: l) remote peer = .error e := by
  apply rejects_everything_else
  rintro ⟨leaf, hp, hs, _⟩
  have h1 := congrArg (splitB slash) hp
  rw [splitB_append_sep, splitB_append_sep, splitB_nosep slash l hl, splitB_nosep slash leaf hs] at h1
  have h2 := (List.append_inj' h1 rfl).2
  injection h2 with h2 _
  subst h2
  exact hd (List.append_cancel_right hp)

theorem rejects_traversal (p : Bytes) (remote : Bool) (peer : Peer) (h : dotdot ∈ splitB slash p) :
    ∃ e, validate p remote peer = .error e := by
  refine except_error_of_not_ok _ fun leaf hv => ?_
  obtain ⟨hp, _, hs, _, _, hdd, _⟩ := validate_shape p remote peer leaf hv
  rw [hp, splitB_append_sep, splitB_nosep slash leaf hs] at h
  rcases List.mem_append.mp h with h | h
  · exact dotdot_not_mem_baseDir h
  · exact hdd (List.mem_singleton.mp h).symm

/-- **client_no_path_no_effect**: a first message that is not one well-formed string within the size
    limit (broken stream, no terminator, over-long, trailing data) makes the client give up without
    touching the filesystem. -/
theorem client_no_path_no_effect (env : Env) (remote : Bool) (m : PathMsg) (e : CErr)
    (hr : recvPath m = .error e) :
    (client env remote m).eff = [] ∧ (client env remote m).reply = none ∧ (client env remote m).ret = .error e := by
  simp [client, hr]

/-- **client_effects** (clauses "creates at most one directory", "any other path causes no filesystem
    change and a clean failure reply", "whatever the client created is removed again"): for every
    environment (connection address, outcome of the filesystem calls, transport outcomes — including a
    failing send of the result code —, server verdict) and every first message, EITHER the
    filesystem-effect log is empty and the result code is not 0, OR the received path was accepted
    by the validator with leaf `leaf`, the code is 0 and the log is exactly `mkdir leaf, remove leaf`. -/
theorem client_effects (env : Env) (remote : Bool) (m : PathMsg) :
    ((client env remote m).eff = [] ∧ (client env remote m).reply ≠ some 0) ∨
    ∃ p leaf, recvPath m = .ok p ∧ validate p remote env.peer = .ok leaf ∧
      (client env remote m).reply = some 0 ∧
      (client env remote m).eff = [.mkdir leaf, .remove leaf] := by
  cases hr : recvPath m with
  | error e =>
    obtain ⟨he, hc, -⟩ := client_no_path_no_effect env remote m e hr
    exact .inl ⟨he, hc ▸ nofun⟩
  | ok p =>
    obtain ⟨he, hc⟩ := client_of_path (env := env) (remote := remote) hr
    rw [he, hc]
    cases hcr : created env remote p with
    | none => left; simp [effOf]
    | some leaf => right; exact ⟨p, leaf, rfl, created_of_some hcr, rfl, rfl⟩

/-- **client_mkdir_confined** (the headline): whatever a server sends and however the exchange goes,
    every directory the client creates is `fsAuthBaseDir/leaf` for the path string `p` it received,
    with `p = fsAuthBaseDir ++ "/" ++ leaf`, `leaf` a single component of a recognised shape (naming
    the connection's endpoint when address-qualified). -/
theorem client_mkdir_confined (env : Env) (remote : Bool) (m : PathMsg) (leaf : Bytes)
    (h : Eff.mkdir leaf ∈ (client env remote m).eff) :
    ∃ p, recvPath m = .ok p ∧ p = baseDir ++ slash :: leaf ∧ slash ∉ leaf ∧ (0 : UInt8) ∉ leaf ∧
      leaf ≠ dot ∧ leaf ≠ dotdot ∧ Recognised remote env.peer leaf := by
  rcases client_effects env remote m with ⟨he, _⟩ | ⟨p, l, hr, hv, _, he⟩
  · simp [he] at h
  · obtain rfl : leaf = l := by simpa [he] using h
    obtain ⟨hp, _, hs, hz, hd, hdd, hrec⟩ := validate_shape p remote env.peer leaf hv
    exact ⟨p, hr, hp, hs, hz, hd, hdd, hrec⟩

/-- clause "creates at most one directory" -/
theorem at_most_one_mkdir (env : Env) (remote : Bool) (m : PathMsg) :
    ((client env remote m).eff.filter (fun e => match e with | .mkdir _ => true | .remove _ => false)).length ≤ 1 := by
  rcases client_effects env remote m with ⟨he, _⟩ | ⟨p, l, _, _, _, he⟩ <;> rw [he] <;> simp

/-- **client_refuses** (clause "no filesystem change and a clean failure reply"): when the received
    path is empty or rejected by the validator, nothing is created or removed and the result code
    handed to the transport is −1. -/
theorem client_refuses (env : Env) (remote : Bool) (m : PathMsg) (p : Bytes) (hr : recvPath m = .ok p)
    (hrej : p = [] ∨ ∃ e, validate p remote env.peer = .error e) :
    (client env remote m).eff = [] ∧ (client env remote m).reply = some (-1) := by
  obtain ⟨he, hc⟩ := client_of_path (env := env) (remote := remote) hr
  rw [he, hc, created_none hrej]
  exact ⟨rfl, rfl⟩

/-- **client_cleanup** (clause "whatever the client created is removed again once the exchange
    completes"), for every path, every filesystem outcome and EVERY way the exchange can end (result
    code not deliverable, any verdict, trailing data, receive error): the log is empty or
    `mkdir leaf, remove leaf`. -/
theorem client_cleanup (env : Env) (remote : Bool) (m : PathMsg) :
    (client env remote m).eff = [] ∨ ∃ leaf, (client env remote m).eff = [.mkdir leaf, .remove leaf] :=
  (client_effects env remote m).imp And.left fun ⟨_, l, _, _, _, he⟩ => ⟨l, he⟩

/-- **server_accepts_only** (clause "the server accepts only a real, non-symlink, owner-only directory,
    recording its owner as the identity"): the verdict 0 is sent only if the client reported success,
    `Lstat` of the path succeeded and reports a directory, not a symbolic link, permission bits
    exactly 0700, link count 1 or 2, and the owner's uid resolves to a user name — and that name is
    the recorded identity. -/
theorem server_accepts_only (env : SrvEnv) (h : (server env).result = some 0) :
    env.cli = .result 0 ∧ ∃ s name, env.lstat = some s ∧ s.isDir = true ∧ s.isSymlink = false ∧
      s.perm = 0o700 ∧ (s.nlink = 1 ∨ s.nlink = 2) ∧ env.lookup s.uid = some name ∧
      (server env).user = some name := by
  obtain ⟨name, hc, hv, hu, _⟩ := (server_cases env).resolve_left fun hl => hl.2.1 h
  obtain ⟨s, hl, h1, h2, h3, h4, h5⟩ := verifyDir_eq_some_iff.mp hv
  exact ⟨hc, s, name, hl, h1, h2, h3, h4, h5, hu⟩

theorem server_identity_only_on_accept (env : SrvEnv) (name : Bytes) (h : (server env).user = some name) :
    (server env).result = some 0 := by
  obtain ⟨_, _, _, _, hr⟩ := (server_cases env).resolve_left fun hl => nomatch hl.1.symm.trans h
  exact hr

theorem server_success_means_verdict_zero (env : SrvEnv) (h : (server env).ret = .ok ()) :
    (server env).result = some 0 := by
  obtain ⟨_, _, _, _, hr⟩ := (server_cases env).resolve_left fun hl => hl.2.2 h
  exact hr

/-! Non-vacuity: each recognised shape is accepted, the exchange creates and removes it, near misses
    are refused, the server accepts a proper directory. -/

example : validate (asciiBytes "/tmp/FS_XXXjlv9Zj") false .nil = .ok (asciiBytes "FS_XXXjlv9Zj") := by
  repeat rw [asciiBytes_ofList]
  decide +kernel
example : validate (asciiBytes "/tmp/FS_REMOTE_my_host_42_67890") true .nil = .ok (asciiBytes "FS_REMOTE_my_host_42_67890") := by
  repeat rw [asciiBytes_ofList]
  decide +kernel
/-- address-qualified, IPv4, matching endpoint; the same name with another port on the connection -/
example : validate (asciiBytes "/tmp/FS_REMOTE_127.0.0.1_19618_XXXQ8dEz7") true (.hp (asciiBytes "127.0.0.1") (asciiBytes "19618"))
    = .ok (asciiBytes "FS_REMOTE_127.0.0.1_19618_XXXQ8dEz7") := by
  repeat rw [asciiBytes_ofList]
  decide +kernel
example : validate (asciiBytes "/tmp/FS_REMOTE_127.0.0.1_19618_XXXQ8dEz7") true (.hp (asciiBytes "127.0.0.1") (asciiBytes "55555"))
    = .error .endpoint := by
  repeat rw [asciiBytes_ofList]
  decide +kernel
/-- address-qualified, IPv6 spelled differently from the connection's address -/
example : validate (asciiBytes "/tmp/FS_::1_45089_XXXYtxDnq") false (.hp (asciiBytes "0:0:0:0:0:0:0:1") (asciiBytes "45089"))
    = .ok (asciiBytes "FS_::1_45089_XXXYtxDnq") := by
  repeat rw [asciiBytes_ofList]
  decide +kernel
example : validate (asciiBytes "/tmp/FS_12345/../FS_67890") false .nil = .error .notClean := by
  repeat rw [asciiBytes_ofList]
  decide +kernel
example : validate (asciiBytes "/tmp/sub/FS_12345") false .nil = .error .parent := by
  repeat rw [asciiBytes_ofList]
  decide +kernel
example : validate (asciiBytes "/tmp/.X11-unix") false .nil = .error .shape := by
  repeat rw [asciiBytes_ofList]
  decide +kernel
example : (client { peer := .nil } false (.payload (asciiBytes "/tmp/FS_12345" ++ [0]))).eff
    = [.mkdir (asciiBytes "FS_12345"), .remove (asciiBytes "FS_12345")] := by
  repeat rw [asciiBytes_ofList]
  decide +kernel
example : (client { peer := .nil } false (.payload (asciiBytes "/var/tmp/FS_12345" ++ [0]))).reply = some (-1) := by
  repeat rw [asciiBytes_ofList]
  decide +kernel
example : (server { cli := .result 0, lstat := some ⟨true, false, 0o700, 2, 1000⟩, lookup := fun _ => some [97] }).result = some 0 := by decide +kernel
example : (server { cli := .result 0, lstat := some ⟨true, false, 0o755, 2, 1000⟩, lookup := fun _ => some [97] }).result = some (-1) := by decide +kernel

end Cedar.C18
