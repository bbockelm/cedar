/-
  C09 — Private attributes are never serialised unless asked for, nor sent in the clear.
  Property theorems only, about CedarModel/Privacy.lean and (the scopes of the type trailer) PrivacyScope.lean.
-/
import CedarModel.PrivacyScope
import CedarProofs.PrivacyRecv
import CedarProofs.StreamOps

namespace Cedar.C09

open Cedar Cedar.Privacy

/-- Clause "matched case-insensitively": the predicates see a name only through its case-folded
    form, so every case variant of a private name is private (and of a public one, public). -/
theorem case_insensitive (n m : Bytes) (h : lower n = lower m) :
    isPrivV1 n = isPrivV1 m ∧ isPrivV2 n = isPrivV2 m ∧ isPriv n = isPriv m :=
  ⟨isPrivV1_fold n m h, isPrivV2_fold n m h, isPriv_fold n m h⟩

/-- the property's fixed claim / capability / transfer-key names -/
def fixedNames : List Bytes :=
  ["claimid", "claimids", "claimidlist", "childclaimids", "capability", "transferkey"].map asciiBytes

/-- Clause "the fixed claim/capability/transfer-key names", under every case variant; `v1Table`
    is regenerated from the classad dependency on every run. -/
theorem fixed_names_private (n : Bytes) (h : lower n ∈ fixedNames) : isPrivV1 n = true := by
  have hsub : ∀ x ∈ fixedNames, v1Table.contains x = true := by decide +kernel
  exact hsub _ h

/-- Clause "any name with the reserved private prefix", under every case variant of the prefix. -/
theorem prefix_names_private (p rest : Bytes) (h : lower p = v2Prefix) : isPrivV2 (p ++ rest) = true := by
  have hl : p.length = v2Prefix.length := by rw [← lower_length p, h]
  have htake : (p ++ rest).take v2Prefix.length = p := List.take_left' hl
  have hge : lenGe (p ++ rest) v2Prefix.length = true :=
    (lenGe_iff _ _).mpr (by simp [hl])
  have hself : lower v2Prefix = v2Prefix := by decide +kernel
  simp only [isPrivV2, hge, htake, h, hself, BEq.rfl, Bool.and_self]

/-- and nothing else is a reserved-prefix name -/
theorem prefix_needed (n : Bytes) (h : isPrivV2 n = true) :
    ∃ p rest, n = p ++ rest ∧ lower p = lower v2Prefix := by
  simp only [isPrivV2, Bool.and_eq_true, beq_iff_eq] at h
  exact ⟨n.take v2Prefix.length, n.drop v2Prefix.length, (List.take_append_drop _ _).symm, h.2⟩

/-- the two option constants (regenerated) are non-zero and share no bit -/
theorem option_bits_distinct :
    optIncludePrivate &&& optNoPrivate = 0 ∧ optIncludePrivate ≠ 0 ∧ optNoPrivate ≠ 0 := by decide

/-- The complete decision, for both filter paths (`filterAttributesByPrivacy`,
    `filterAttributesByWhitelist`) and every option word, whitelist, EncryptedAttrs list and peer. -/
theorem sent_iff (c : Config) (ad : Ad) (a : Attr) :
    a ∈ attrsToSend c ad ↔
      a ∈ ad ∧ (c.whitelist = [] ∨ a.name ∈ c.whitelist) ∧
      ((isPriv a.name = true ∨ a.name ∈ c.encryptedAttrs) → includePrivate c = true) ∧
      (isPrivV2 a.name = true → peerTooOld c = false) := by
  rw [attrsToSend_eq_filter, List.mem_filter, keep_iff]

/-- Clause "unless the caller explicitly opted in and did not also ask for exclusion": the option
    bits IncludePrivate set and NoPrivate clear, whether or not a whitelist names the attribute. -/
theorem default_deny (c : Config) (ad : Ad) (a : Attr) (hp : isPriv a.name = true)
    (hs : a ∈ attrsToSend c ad) :
    c.options &&& optIncludePrivate ≠ 0 ∧ c.options &&& optNoPrivate = 0 :=
  (includePrivate_iff c).mp (((sent_iff c ad a).mp hs).2.2.1 (.inl hp))

/-- the filters only select: what is serialised is a sublist of the ad, in the ad's order -/
theorem sent_sublist (c : Config) (ad : Ad) : (attrsToSend c ad).Sublist ad := by
  rw [attrsToSend_eq_filter]; exact List.filter_sublist

/-- `BuiltSinceVersion` is the lexicographic comparison; the cut-off literals are regenerated -/
theorem tooOld_iff (c : Config) (v : Version) (h : c.peer = some v) :
    peerTooOld c = true ↔
      (v.major < CedarGen.Private.v2CutoffMajor ∨
       (v.major = CedarGen.Private.v2CutoffMajor ∧ v.minor < CedarGen.Private.v2CutoffMinor) ∨
       (v.major = CedarGen.Private.v2CutoffMajor ∧ v.minor = CedarGen.Private.v2CutoffMinor ∧
          v.patch < CedarGen.Private.v2CutoffPatch)) := by
  simp only [peerTooOld, h, Bool.not_eq_true', Version.builtSince_eq_false]

/-- the regenerated arguments of the `BuiltSinceVersion` call behind `tooOld_iff` -/
theorem cutoff_is_9_9_0 : CedarGen.Private.v2CutoffMajor = 9 ∧ CedarGen.Private.v2CutoffMinor = 9 ∧
    CedarGen.Private.v2CutoffPatch = 0 := by decide

/-- Clause "reserved-prefix attributes are additionally withheld from peers too old to understand
    them": whatever the options say. -/
theorem v2_gate (c : Config) (ad : Ad) (a : Attr) (hp : isPrivV2 a.name = true)
    (hs : a ∈ attrsToSend c ad) : peerTooOld c = false :=
  ((sent_iff c ad a).mp hs).2.2.2 hp

/-- an unknown peer version does not withhold (non-vacuity of the gate's other side) -/
theorem unknown_peer_not_old (c : Config) (h : c.peer = none) : peerTooOld c = false := by
  simp [peerTooOld, h]

/-- Clause "without the opt-in neither their names nor their values occur anywhere in the emitted
    bytes", as non-interference: on two ads with the same public attributes (names, expressions,
    order) the serialiser does the same thing — same frames, same buffer, same stream state — for
    every evaluator, option word, whitelist, EncryptedAttrs, peer version, stream state and prior
    buffer content. -/
theorem wire_independent_of_private (ev : Eval) (c : Config) (s : Stream) (buf : Bytes) (ad1 ad2 : Ad)
    (hopt : includePrivate c = false) (hpub : publicPart ad1 = publicPart ad2) :
    putAd ev c s buf ad1 = putAd ev c s buf ad2 := by
  have h := items_publicPart ev c s hopt
  unfold items at h
  unfold putAd putAdWith
  rw [← h ad1, ← h ad2, hpub]

/-- the same for a whole message (`PutClassAd` on a fresh message, then `FinishMessage`) -/
theorem message_independent_of_private (ev : Eval) (c : Config) (s : Stream) (ad1 ad2 : Ad)
    (hopt : includePrivate c = false) (hpub : publicPart ad1 = publicPart ad2) :
    sendAd ev c s ad1 = sendAd ev c s ad2 := by
  unfold sendAd
  rw [wire_independent_of_private ev c s [] ad1 ad2 hopt hpub]

/-- without the opt-in an ad is sent as its public part is -/
theorem same_as_redacted (ev : Eval) (c : Config) (s : Stream) (ad : Ad) (hopt : includePrivate c = false) :
    sendAd ev c s ad = sendAd ev c s (publicPart ad) :=
  message_independent_of_private ev c s ad (publicPart ad) hopt (by simp [publicPart, List.filter_filter])

/-- the two ads of the witness below: the same public attribute `MyType = ClaimId`, different secrets -/
def leakAd (secret : String) : Ad :=
  [⟨asciiBytes "MyType", asciiBytes "ClaimId"⟩, ⟨asciiBytes "ClaimId", asciiBytes secret⟩]

/-- F-C09-type-trailer: with MyType / TargetType evaluated in the whole ad instead of in
    `adWithoutPrivate`, the non-interference statement is false — with default options the ad
    `[MyType = ClaimId; ClaimId = "s1"]` puts the claim id into the cleartext trailer. -/
theorem unredacted_types_fails :
    ¬ (∀ (ev : Eval) (c : Config) (s : Stream) (ad1 ad2 : Ad), includePrivate c = false →
        publicPart ad1 = publicPart ad2 →
        (putAdWith (fun ad _ => ad) ev c s [] ad1).2.1 = (putAdWith (fun ad _ => ad) ev c s [] ad2).2.1) := by
  intro h
  have := h (refEval 3) {} {} (leakAd "\"s1\"") (leakAd "\"s2\"") (by decide +kernel) (by decide +kernel)
  revert this
  decide +kernel

/-- F-C09-type-trailer-scope. `typeItemsScoped` models the trailer alone, beside the serialiser:
    `putAd` takes the evaluator as a function of the view only (`Eval`), while the real one also
    resolves `PARENT.x` / `TARGET.x` in the scope ads the view carries. The definition hands the
    evaluator redacted copies of the scopes, so the trailer is the same for scope ads that agree
    after `redactScope` — by construction; `scope_types_legacy_fails` is what goes wrong with the
    scopes passed as they are. `redactScope` removes by `isPriv` where the view removes by
    `isSecretName`: `classad.Redacted()` knows no EncryptedAttrs. -/
theorem types_independent_of_scope_private (ev : EvalS) (enc : List Bytes) (ad : Ad)
    (p1 p2 t1 t2 : Option Ad) (hp : p1.map redactScope = p2.map redactScope)
    (ht : t1.map redactScope = t2.map redactScope) :
    typeItemsScoped ev enc ad p1 t1 = typeItemsScoped ev enc ad p2 t2 := by
  unfold typeItemsScoped
  simp only [hp, ht]

def scope_types_legacy_statement : Prop :=
  ∀ (ev : EvalS) (enc : List Bytes) (ad : Ad) (p1 p2 t1 t2 : Option Ad),
    p1.map redactScope = p2.map redactScope → t1.map redactScope = t2.map redactScope →
    Legacy.typeItemsScoped ev enc ad p1 t1 = Legacy.typeItemsScoped ev enc ad p2 t2

/-- a matched ad holding only a claim id -/
def claimAd (secret : String) : Ad := [⟨asciiBytes "ClaimId", asciiBytes secret⟩]

/-- F-C09-type-trailer-scope: with the scopes kept as they are, two matched ads that differ only
    in their `ClaimId` give different trailers (`MyType = TARGET.ClaimId`). -/
theorem scope_types_legacy_fails : ¬ scope_types_legacy_statement := by
  intro h
  have := h targetClaimEval [] [] none none (some (claimAd "s1")) (some (claimAd "s2")) (by decide +kernel) (by decide +kernel)
  revert this
  decide +kernel

/-- with redacted scopes the two trailers of that witness are equal -/
example : typeItemsScoped targetClaimEval [] [] none (some (claimAd "s1")) =
    typeItemsScoped targetClaimEval [] [] none (some (claimAd "s2")) := by decide +kernel

/-- What `Stream.crypting` means for the frame `Stream.sendFrame` builds: the raw payload when
    false, an AES-GCM seal of that very payload when true. `PFrame.sealed` is by definition the
    value of `crypting` when the frame is flushed (`putOn`, `flushOn`); the typed layer does not
    call `sendFrame`. -/
theorem sealed_iff_ciphertext (s s' : Stream) (p : Bytes) (flag : Nat) (f : WireFrame)
    (h : s.sendFrame p flag = .ok (s', f)) :
    (s.crypting = false → f.body = .raw p) ∧
    (s.crypting = true → ∃ iv sl, f.body = .ct iv sl ∧ sl.plain = p) := by
  rcases sendFrame_ok h with ⟨hc, rfl, -⟩ | ⟨k, hk, he, -, rfl, -⟩
  · exact ⟨fun _ => rfl, fun hc' => by rw [hc] at hc'; cases hc'⟩
  · exact ⟨fun hc => (by rw [crypting_of_keyed hk he] at hc; cases hc), fun _ => ⟨_, _, rfl, rfl⟩⟩

/-- which items are secrets on the marker path: exactly the serialised attributes that are
    private (or listed in EncryptedAttrs) -/
theorem marker_items (c : Config) (s : Stream) (hs : MarkerState s) (a : Attr) :
    attrItem (!secretIsNoop s) c.encryptedAttrs a =
      if isSecretName c.encryptedAttrs a.name then .secret (exprStr a) else .val (.str (exprStr a)) :=
  attrItem_marker hs c.encryptedAttrs a

/-- On a stream that holds a session key but is not encrypting, the payload bytes of ALL frames
    that travel unprotected are exactly the reference encodings of the items with a bare marker
    in place of every secret expression (so: the count, the public expressions, the type trailer
    evaluated without the private attributes); the secret expressions — name and value — make up
    exactly the payload of the protected frames, as length-prefixed strings. `hw`: every item
    written is a value the typed layer encodes faithfully (`Val.wf`: int64; strings NUL-free,
    shorter than 2 GiB, not starting with the byte `BinNullChar`, 0xAD); the evaluator's results are
    among the items. -/
theorem secrets_only_sealed (ev : Eval) (c : Config) (s : Stream) (ad : Ad) (hs : MarkerState s)
    (hw : ∀ it ∈ items ev c s ad, it.wf) :
    clearBytes (sendAd ev c s ad) = Spec.encAll false ((items ev c s ad).map Item.clearVal) ∧
    sealedBytes (sendAd ev c s ad) = Spec.encAll true (secretVals (items ev c s ad)) := by
  have hch := sendAd_chunks ev c s ad hw
  rw [hs.crypting, hs.clear] at hch
  rw [hch.clear_eq, hch.sealed_eq, bytesOf_cons, bytesOf_cons]
  exact runs_bytes _

/-- Clause "their values travel only inside encrypted frames", as non-interference: on a stream
    that holds a session key but is not encrypting, two ads with the same attribute names in the
    same order that differ only in the VALUES of private attributes put exactly the same bytes into
    the unprotected frames — for every configuration (opt-in included), whitelist, peer, evaluator. -/
theorem clear_independent_of_private_values (ev : Eval) (c : Config) (s : Stream) (ad1 ad2 : Ad)
    (hs : MarkerState s) (h : SameButPrivateValues ad1 ad2)
    (hw1 : ∀ it ∈ items ev c s ad1, it.wf) (hw2 : ∀ it ∈ items ev c s ad2, it.wf) :
    clearBytes (sendAd ev c s ad1) = clearBytes (sendAd ev c s ad2) := by
  rw [(secrets_only_sealed ev c s ad1 hs hw1).1, (secrets_only_sealed ev c s ad2 hs hw2).1,
    clearVals_same ev c s ad1 ad2 hs h]

/-- the stream state "keyed and encrypting": every frame is protected, so no payload byte of the
    ad travels in the clear, private or not -/
theorem encrypting_all_sealed (ev : Eval) (c : Config) (s : Stream) (ad : Ad)
    (hk : s.key.isSome = true) (he : s.encrypted = true) :
    clearBytes (sendAd ev c s ad) = [] := by
  obtain ⟨g1, g2⟩ := emitItems_crypting (items ev c s ad) s [] (by simp [Stream.crypting, hk, he])
  have : ∀ f ∈ sendAd ev c s ad, f.sealed = true :=
    List.forall_mem_append.mpr ⟨g2, fun f hf => List.mem_singleton.mp hf ▸ g1⟩
  rw [clearBytes, List.filter_eq_nil_iff.mpr (fun f hf => by simp [this f hf])]
  rfl

/-- Clause "the receiver still reassembles the ad", in all three stream states: no key, keyed and
    encrypting, keyed but not encrypting (where each secret arrives as a marker in an unprotected
    frame followed by a protected frame of its own). A receiver whose stream is in the sender's
    state (same key presence, same encryption flag) reads back from exactly the frames written
    the expressions that were to be sent — secret ones included, in order — and the two type
    strings; the crypto toggle of `getSecretString` always meets a frame boundary. For every
    configuration that sends the types and every evaluator; `hw` as in `secrets_only_sealed`
    (0xAD is a UTF-8 continuation byte: no valid UTF-8 string starts with it). -/
theorem secret_roundtrip (ev : Eval) (c : Config) (s r : Stream) (ad : Ad)
    (hk : r.key.isSome = s.key.isSome) (he : r.encrypted = s.encrypted)
    (hty : hasOpt c.options optNoTypes = false) (hw : ∀ it ∈ items ev c s ad, it.wf) :
    ∃ d', recvAd r ⟨[], false, sendAd ev c s ad⟩ =
      .ok (⟨expectedExprs c ad, (ev (typeView ad c.encryptedAttrs) myTypeName).getD [],
            (ev (typeView ad c.encryptedAttrs) targetTypeName).getD []⟩, d') :=
  recvAd_sendAd ev c s r ad hk he hty hw

/-- what the receiver gets is exactly what `sent_iff` selects, rendered `name = value` -/
theorem received_exprs (c : Config) (ad : Ad) (h : hasOpt c.options optServerTime = false) :
    expectedExprs c ad = (attrsToSend c ad).map exprStr := by
  simp [expectedExprs, h]

def demoAd : Ad :=
  [⟨asciiBytes "Name", asciiBytes "\"slot1\""⟩, ⟨asciiBytes "cLaImId", asciiBytes "\"secret#1\""⟩,
   ⟨asciiBytes "_CONDOR_PRIVx", asciiBytes "7"⟩, ⟨asciiBytes "MyType", asciiBytes "\"Machine\""⟩]

def keyedClear : Stream := { key := some 1, encrypted := false }

-- default options: only the public attributes
example : (attrsToSend {} demoAd).map (·.name) = [asciiBytes "Name", asciiBytes "MyType"] := by decide +kernel
-- opted in: everything; opted in and NoPrivate: public only; opted in towards a 9.8.99 peer: no prefix attribute
example : (attrsToSend { options := 32 } demoAd).length = 4 := by decide +kernel
example : (attrsToSend { options := 34 } demoAd).length = 2 := by decide +kernel
example : (attrsToSend { options := 32, peer := some ⟨9, 8, 99⟩ } demoAd).map (·.name) =
    [asciiBytes "Name", asciiBytes "cLaImId", asciiBytes "MyType"] := by decide +kernel
-- a whitelist naming the private attribute does not get it through
example : attrsToSend { whitelist := [asciiBytes "cLaImId"] } demoAd = [] := by decide +kernel
-- the marker path really produces protected frames, and the clear ones carry the marker, not the secret
example : ((sendAd (refEval 3) { options := 32 } keyedClear demoAd).map (·.sealed)) =
    [false, true, false, true, false] := by decide +kernel
example : MarkerState keyedClear := ⟨rfl, rfl⟩
-- and the model receiver reads all four expressions back on the marker path
example : (match recvAd keyedClear ⟨[], false, sendAd (refEval 3) { options := 32 } keyedClear demoAd⟩ with
    | .ok (ra, _) => ra.exprs == demoAd.map exprStr && ra.myType == asciiBytes "Machine"
    | .error _ => false) = true := by decide +kernel
-- a protected frame that arrives unprotected is refused
example : (match recvAd keyedClear ⟨[], false, (sendAd (refEval 3) { options := 32 } keyedClear demoAd).map
      (fun f => { f with sealed := false })⟩ with
    | .error .authFail => true
    | _ => false) = true := by decide +kernel

end Cedar.C09
