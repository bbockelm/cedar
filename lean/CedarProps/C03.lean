/-
  C03 — REQUIRED means required, and the reported handshake outcome is what happened.
  The peer is a universally quantified script (every field value it sends is arbitrary).
  Then: the resumption paths under REQUIRED authentication (what a resumption checks otherwise is
  C06), what "encrypted" means for the traffic that follows on the Stream model, per-command policies.
-/
import CedarProofs.Keyed
import CedarProofs.CacheResume
import CedarProofs.HandshakeLemmas

namespace Cedar.C03
open Cedar Cedar.HS

/-- whatever the server sends, if a client whose policy marks
    authentication REQUIRED gets success, then an authentication method that the client itself
    listed ran to successful completion on the connection. -/
theorem client_required_auth (cfg : ClientCfg) (srv : ServerScript) (o : Outcome)
    (h : clientFull cfg srv = .ok o) (hreq : cfg.auth = lvlRequired) :
    ∃ m ∈ cfg.methods, (m, true) ∈ o.ran := by
  obtain ⟨_, _, hk⟩ := clientFull_ok h
  rcases clientAuthPhase_ok hk.auth with ⟨_, _, hne, _⟩ | ⟨_, _, hm, _, hran⟩
  · exact absurd hreq hne
  · exact ⟨_, hm, hran.1⟩

/-- success with encryption or integrity REQUIRED means the session key is
    installed on the stream (all later traffic is AES-GCM protected: C02/C12). -/
theorem client_required_enc (cfg : ClientCfg) (srv : ServerScript) (o : Outcome)
    (h : clientFull cfg srv = .ok o) (hreq : cfg.enc = lvlRequired ∨ cfg.integ = lvlRequired) :
    o.streamKey.isSome = true := by
  obtain ⟨_, _, hk⟩ := clientFull_ok h
  exact (setupEnc_ok hk.key).2 (.inr hreq)

/-- the encryption flag reported equals the stream's real state. -/
theorem client_reported_enc_is_real (cfg : ClientCfg) (srv : ServerScript) (o : Outcome)
    (h : clientFull cfg srv = .ok o) : o.reportedEnc = o.streamKey.isSome := by
  obtain ⟨_, _, hk⟩ := clientFull_ok h
  exact hk.reportedEnc

/-- the authentication flag is true exactly when an exchange
    completed successfully, and then the reported method is that exchange's method — one the client
    listed, and the only one that succeeded. -/
theorem client_reported_auth_is_real (cfg : ClientCfg) (srv : ServerScript) (o : Outcome)
    (h : clientFull cfg srv = .ok o) :
    (o.reportedAuth = true ↔ ∃ m, (m, true) ∈ o.ran) ∧
    (o.reportedAuth = true → (o.reportedMethod, true) ∈ o.ran ∧ o.reportedMethod ∈ cfg.methods ∧
        ∀ m, (m, true) ∈ o.ran → m = o.reportedMethod) := by
  obtain ⟨_, _, hk⟩ := clientFull_ok h
  rcases clientAuthPhase_ok hk.auth with ⟨hf, hnil, _⟩ | ⟨ht, _, hm, _, hin, _, honly⟩
  · simp [hf, hnil]
  · exact ⟨⟨fun _ => ⟨_, hin⟩, fun _ => ht⟩, fun _ => ⟨hin, hm, fun m hmr => honly (m, true) hmr rfl⟩⟩

/-- every exchange the client takes part in is for a method it
    listed (a server cannot steer it into an un-offered method, several bits, or an unknown bit). -/
theorem client_only_offered_methods_run (cfg : ClientCfg) (srv : ServerScript) (o : Outcome)
    (h : clientFull cfg srv = .ok o) : ∀ x ∈ o.ran, x.1 ∈ cfg.methods := by
  obtain ⟨_, _, hk⟩ := clientFull_ok h
  rcases clientAuthPhase_ok hk.auth with ⟨_, hnil, _⟩ | ⟨_, _, _, _, hran⟩
  · simp [hnil]
  · exact hran.2.1

/-- a server with authentication REQUIRED that returns success has run one
    of ITS OWN listed methods to successful completion, and records the identity that exchange yielded. -/
theorem server_required_auth (cfg : ServerCfg) (cli : ClientScript) (sid : String) (o : Outcome) (adv : Decision)
    (h : serverFull cfg cli sid = .ok o adv) (hreq : cfg.auth = lvlRequired) :
    ∃ m ∈ cfg.methods, (m, true) ∈ o.ran ∧ cli.authOK m = some o.user :=
  have hk := serverFull_ok h
  serverFull_authenticated h (hk.reportedAuth.trans (negotiate_required_auth hk.neg hreq))

/-- the server's counterpart of `client_required_enc`. -/
theorem server_required_enc (cfg : ServerCfg) (cli : ClientScript) (sid : String) (o : Outcome) (adv : Decision)
    (h : serverFull cfg cli sid = .ok o adv) (hreq : cfg.enc = lvlRequired ∨ cfg.integ = lvlRequired) :
    o.streamKey.isSome = true :=
  (setupEnc_ok (serverFull_ok h).key).2 (.inr hreq)

/-- the server's reported encryption flag is the stream's state; its
    authentication flag is true exactly when one of its own methods completed, and the reported
    method is that one. -/
theorem server_reported_is_real (cfg : ServerCfg) (cli : ClientScript) (sid : String) (o : Outcome) (adv : Decision)
    (h : serverFull cfg cli sid = .ok o adv) :
    o.reportedEnc = o.streamKey.isSome ∧
    (o.reportedAuth = true ↔ ∃ m, (m, true) ∈ o.ran) ∧
    (o.reportedAuth = true → (o.reportedMethod, true) ∈ o.ran ∧ o.reportedMethod ∈ cfg.methods) ∧
    (∀ x ∈ o.ran, x.1 ∈ cfg.methods) := by
  have hk := serverFull_ok h
  refine ⟨hk.reportedEnc, ?_⟩
  rcases serverAuthPhase_ok hk.auth with ⟨hf, hnil, _⟩ | ⟨ht, hm, _, hran⟩
  · simp [hk.reportedAuth, hf, hnil]
  · exact ⟨⟨fun _ => ⟨_, hran.1⟩, fun _ => hk.reportedAuth.trans ht⟩, fun _ => ⟨hran.1, hm⟩, hran.2.1⟩

/-- if encryption was decided the advertised "YES" is backed by a key (the post-auth ad and all
    later traffic are then protected) -/
theorem decided_enc_is_keyed (cfg : ServerCfg) (cli : ClientScript) (sid : String) (o : Outcome) (adv : Decision)
    (h : serverFull cfg cli sid = .ok o adv) (hd : adv.encryption = true) : o.streamKey.isSome = true :=
  (setupEnc_ok (serverFull_ok h).key).2 (.inl hd)

/-! Non-vacuity (tests): an honest server satisfies the hypotheses; the catalogue's deviations fail. -/
def honestSrv : ServerScript :=
  { returnCode := none, auth := "YES", enc := "YES", methods := ["CLAIMTOBE"], ciphers := ["AES"], key := .good 2,
    replies := [2], authOK := fun m => m == "CLAIMTOBE", hasKeyMsg := some 0,
    postAuth := some ⟨true, some "AUTHORIZED", "sid", "alice", "60007"⟩ }
def strictClient : ClientCfg :=
  { auth := lvlRequired, enc := lvlRequired, integ := lvlRequired, methods := ["CLAIMTOBE"], ciphers := ["AES"] }
example : (clientFull strictClient honestSrv).isOk = true := by decide +kernel
example : (clientFull strictClient { honestSrv with auth := "NO", replies := [] }).isOk = false := by decide +kernel
example : (clientFull strictClient { honestSrv with key := .absent, postAuth := some ⟨false, some "AUTHORIZED", "s", "u", "1"⟩ }).isOk = false := by decide +kernel
example : (clientFull { strictClient with methods := ["PASSWORD"] }
            { honestSrv with methods := ["PASSWORD", "CLAIMTOBE"] }).isOk = false := by decide +kernel

/-! ### REQUIRED authentication and resumed handshakes

The property allows one alternative to "a method ran on this connection": the session that was
resumed is an authenticated one. These three theorems say the resumption paths check exactly
that when the local policy marks authentication REQUIRED (`requireAuth = true`). -/

open Cedar.SC in
/-- a client with Authentication REQUIRED that resumes through its command map resumed an
    authenticated session -/
theorem client_resume_required_auth (c : Cache) (now : Nat) (tag addr cmd : Str) (ans : ServerAnswer)
    (c' : Cache) (sid : Str) (key : Option Nat) (user : String) (auth : Bool)
    (h : clientTry c now tag addr cmd ans true = (c', .resumed sid key user auth)) : auth = true := by
  obtain ⟨_, e, _, hr, _, _, _, _, rfl⟩ := clientTry_resumed (congrArg Prod.snd h)
  exact (resumable_eq_some.mp hr).2.2.2.2 rfl

open Cedar.SC in
/-- the same for a session named explicitly by id -/
theorem client_explicit_required_auth (c : Cache) (now : Nat) (sid : Str) (ans : ServerAnswer)
    (c' : Cache) (sid' : Str) (key : Option Nat) (user : String) (auth : Bool)
    (h : clientById c now sid ans true = (c', .resumed sid' key user auth)) : auth = true := by
  obtain ⟨e, hr, _, _, _, _, rfl⟩ := clientById_resumed (congrArg Prod.snd h)
  exact (resumable_eq_some.mp hr).2.2.2.2 rfl

open Cedar.SC in
/-- a server whose policy for the named command marks authentication REQUIRED and that resumes a
    session resumed an authenticated one -/
theorem server_resume_required_auth (c : Cache) (now : Nat) (sid : Str) (want : Bool) (nonce : Nat)
    (c' : Cache) (reply : ResumeReply) (o : ResumeOutcome)
    (h : serverResume c now sid want nonce true = (c', reply, some o)) : o.authenticated = true := by
  obtain ⟨e, hr, _, _, rfl⟩ := serverResume_some h
  exact (resumable_eq_some.mp hr).2.2.2.2 rfl

/-! ### "all later traffic is AES-GCM protected", on the Stream model

`client_required_enc` / `server_required_enc` conclude `o.streamKey.isSome`, a field of the handshake
model. The bridge: `streamKey = some k` is the key `setupStreamEncryption` hands to
`SetSymmetricKey` (`Stream.setKey`), and a stream so keyed, driven by ANY history of application
operations that contains no explicit `SetCryptoMode(false)`, emits only `.ct` frames sealed under `k`
and accepts only seals under `k` (`Cedar.run_protected`, CedarProofs/Keyed.lean; the exact wire
form of each frame is `C12.wire_format`, the nonces `C12.nonce_sequence`). -/

/-- the bridge: whatever state `s` the stream was in during the
    cleartext handshake and whatever fresh IV `SetSymmetricKey` drew, after `setKey k iv` every
    history without a crypto-off toggle is `ProtectedBy k`. -/
theorem keyed_traffic_protected (s : Stream) (k : Nat) (iv : IV) (hist : List Op)
    (hon : ∀ op ∈ hist, op.keepsCrypto = true) :
    ProtectedBy ((s.setKey k iv).run hist).1 ((s.setKey k iv).run hist).2 k :=
  run_protected _ k (setKey_keyed s k iv) hist hon

/-- whenever either machine REPORTS encryption,
    the stream is keyed and later traffic is protected (the reported flag is not decoration). -/
theorem reported_enc_traffic_protected (o : Outcome)
    (hreal : o.reportedEnc = o.streamKey.isSome) (hrep : o.reportedEnc = true)
    (s : Stream) (iv : IV) (hist : List Op) (hon : ∀ op ∈ hist, op.keepsCrypto = true) :
    ∃ k, o.streamKey = some k ∧ ProtectedBy ((s.setKey k iv).run hist).1 ((s.setKey k iv).run hist).2 k := by
  obtain ⟨k, hs⟩ := Option.isSome_iff_exists.mp (hreal.symm.trans hrep)
  exact ⟨k, hs, keyed_traffic_protected s k iv hist hon⟩

/-- a client whose policy marks encryption or integrity
    REQUIRED and whose handshake succeeded — against ANY server script — has a session key `k`, and
    all its later traffic on that stream is AES-GCM protected under `k` in the sense above. -/
theorem client_required_traffic_protected (cfg : ClientCfg) (srv : ServerScript) (o : Outcome)
    (h : clientFull cfg srv = .ok o) (hreq : cfg.enc = lvlRequired ∨ cfg.integ = lvlRequired)
    (s : Stream) (iv : IV) (hist : List Op) (hon : ∀ op ∈ hist, op.keepsCrypto = true) :
    ∃ k, o.streamKey = some k ∧ o.reportedEnc = true ∧
      ProtectedBy ((s.setKey k iv).run hist).1 ((s.setKey k iv).run hist).2 k := by
  have hre := (client_reported_enc_is_real cfg srv o h).trans (client_required_enc cfg srv o h hreq)
  obtain ⟨k, hs, hp⟩ := reported_enc_traffic_protected o (client_reported_enc_is_real cfg srv o h) hre s iv hist hon
  exact ⟨k, hs, hre, hp⟩

/-- the same for a server, against any client script; also
    when encryption was merely DECIDED by the negotiation (`decided_enc_is_keyed`). -/
theorem server_required_traffic_protected (cfg : ServerCfg) (cli : ClientScript) (sid : String) (o : Outcome) (adv : Decision)
    (h : serverFull cfg cli sid = .ok o adv)
    (hreq : cfg.enc = lvlRequired ∨ cfg.integ = lvlRequired ∨ adv.encryption = true)
    (s : Stream) (iv : IV) (hist : List Op) (hon : ∀ op ∈ hist, op.keepsCrypto = true) :
    ∃ k, o.streamKey = some k ∧ o.reportedEnc = true ∧
      ProtectedBy ((s.setKey k iv).run hist).1 ((s.setKey k iv).run hist).2 k := by
  have hk : o.streamKey.isSome = true := by
    rcases hreq with h1 | h1 | h1
    · exact server_required_enc cfg cli sid o adv h (.inl h1)
    · exact server_required_enc cfg cli sid o adv h (.inr h1)
    · exact decided_enc_is_keyed cfg cli sid o adv h h1
  have hreal := (server_reported_is_real cfg cli sid o adv h).1
  obtain ⟨k, hs, hp⟩ := reported_enc_traffic_protected o hreal (hreal.trans hk) s iv hist hon
  exact ⟨k, hs, hreal.trans hk, hp⟩

/-! Non-vacuity: the strict client against the honest server gets key `sharedKey 1 2`; a history
    with sends, a secret and a junk frame received emits only `.ct` frames under that key. -/
example : ∃ o, clientFull strictClient honestSrv = .ok o ∧ o.streamKey = some (sharedKey 1 2) := ⟨_, rfl, by decide +kernel⟩
example : ((({} : Stream).setKey (sharedKey 1 2) ⟨4, []⟩).run
    [.send [1] 1, .recv ⟨1, 1, .raw [0]⟩, .secret [2]]).2.all
      (fun f => match f.body with | .ct _ c => c.key == sharedKey 1 2 | .raw _ => false) = true := by decide +kernel

/-! ### per-command policies: the policy that is met is the one of the command the negotiation is FOR

The server may carry a policy per command (`ServerConfigForCommand`). "Its own policy" is then the
policy of the command the handshake reports as negotiated (and a dispatching server runs) -- whatever
else the request names (`AuthCommand`) and whatever the default policy or other commands' policies say. -/

/-- success for a command whose policy marks authentication
    REQUIRED ⇒ a method listed by THAT policy completed, for every request (every `AuthCommand`). -/
theorem server_percommand_required_auth (dflt : ServerCfg) (table : Int → Option ServerCfg) (req : CmdReq)
    (cli : ClientScript) (sid : String) (o : Outcome) (adv : Decision)
    (h : serverPerCommand dflt table req cli sid = .ok o adv)
    (hreq : (policyFor dflt table req.negotiatedFor).auth = lvlRequired) :
    ∃ m ∈ (policyFor dflt table req.negotiatedFor).methods, (m, true) ∈ o.ran ∧ cli.authOK m = some o.user :=
  server_required_auth _ cli sid o adv h hreq

/-- likewise for encryption or integrity REQUIRED by THAT policy. -/
theorem server_percommand_required_enc (dflt : ServerCfg) (table : Int → Option ServerCfg) (req : CmdReq)
    (cli : ClientScript) (sid : String) (o : Outcome) (adv : Decision)
    (h : serverPerCommand dflt table req cli sid = .ok o adv)
    (hreq : (policyFor dflt table req.negotiatedFor).enc = lvlRequired ∨ (policyFor dflt table req.negotiatedFor).integ = lvlRequired) :
    o.streamKey.isSome = true :=
  server_required_enc _ cli sid o adv h hreq

/-- the outcome is a function of the command alone. -/
theorem server_percommand_ignores_authcommand (dflt : ServerCfg) (table : Int → Option ServerCfg)
    (cmd : Option Int) (a b : Option Int) (cli : ClientScript) (sid : String) :
    serverPerCommand dflt table ⟨cmd, a⟩ cli sid = serverPerCommand dflt table ⟨cmd, b⟩ cli sid := rfl

end Cedar.C03
