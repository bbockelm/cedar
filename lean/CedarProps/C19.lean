/-
  C19  Cancellation and deadlines always unblock stream operations.

  Statement (properties.jsonl): every blocking operation on a stream, and therefore every handshake,
  returns promptly with an error (the context's own error for plain stream operations) once its
  context is cancelled or its deadline passes, no matter at which read or write the peer stalls,
  and the connection is then closed rather than left half-used.  A context that can never be
  cancelled adds no failure mode.

  Model: `Cedar.Cancel` — an operation is a list of calls of readWithContext / writeWithContext
  (`Step`), the environment chooses for every call whether the peer completes, fails or stalls the
  request and whether a cancellation / deadline fires before the call's entry guard (`pre`) or
  while the request is outstanding (`mid`).  `run cur` is the code as it is (entry guard closes the
  connection); `run false` is the code with defect F-C19-guard-leaves-open.  "Returns" = returns
  without any further action of the peer (`Ret.blocked` is the only non-returning outcome);
  wall-clock promptness is measured by the `stall` engine, not proved.

  Tied to the code by CedarGen.FactsIO, CedarGen.FactsNoCtx (regenerated on every run) and the
  `stall` engine.
-/
import CedarProofs.CancelLemmas
import CedarProofs.GenNonEmpty

namespace Cedar.C19
open Cedar Cedar.Cancel

/-- Clause "returns … once its context is cancelled or its deadline passes, no matter at which read
    or write the peer stalls".  An operation that does not return has a context that has not fired —
    at any position up to and including the request it is blocked on.  Contrapositive: a cancellation
    or deadline that fires before or during the stalled request makes it return. -/
theorem unblocks (gc : Bool) (w : World) (p : List (Step × StepEnv)) (h : (run gc w p).2 = .blocked) :
    (run gc w p).1.err = none := by
  by_cases hp : p = []
  · subst hp; cases h
  · obtain ⟨w₁, x, -, hw, hr | ⟨hr, -⟩⟩ := run_last gc w p hp
    · rw [hw]; exact (step_blocked gc w₁ x.2 (hr ▸ h)).1
    · rw [hr] at h; cases h

/-- Cancellation fired BEFORE the operation / before the stall is reached.  With the context already
    fired the operation returns at the next entry guard: it issues no request at all (so it cannot
    depend on the peer).  Loops that swallow errors (the handshakes' retry loops) therefore drain
    without touching the connection. -/
theorem cancelled_before (w : World) (p : List (Step × StepEnv)) (c : CtxErr) (h : w.err = some c) :
    (run cur w p).2 ≠ .blocked ∧ (run cur w p).1.io = w.io ∧
    ((∃ x ∈ p, x.1.onErr = .abort) → (run cur w p).2 = .ctx c) ∧
    (p ≠ [] → (run cur w p).1.closed = true) := by
  rw [run_fired cur w p c h]
  refine ⟨by split <;> simp, rfl, fun ⟨x, hx, ha⟩ => if_pos (List.any_eq_true.mpr ⟨x, hx, by simp [ha]⟩),
    fun hp => by simp [hp]⟩

/-- The k-th request never completes, cancellation / deadline fires DURING the stall (`a`: the
    completed steps before it).  Nothing after the stalled request is attempted. -/
theorem stall_cancel_during (w : World) (a : List Step) (s : Step) (rest : List (Step × StepEnv)) (c : CtxErr)
    (hc : w.cancellable = true) (hn : w.err = none) (hcl : w.closed = false) (hs : s.onErr = .abort) :
    run cur w (quiet a ++ (s, { pre := none, peer := .stall, mid := some c }) :: rest) =
      ({ w with err := some c, closed := true, io := w.io + a.length + 1 }, .ctx c) := by
  have hst := step_mid cur { w with io := w.io + a.length } ⟨none, .stall, some c⟩ c hc hn rfl rfl
  rw [run_quiet_stop cur w a s rest hn hcl hst (.inr ⟨hs, nofun⟩), if_pos ⟨hcl, rfl⟩]

/-- Cancellation / deadline fires BEFORE the stalled request is issued: after step j-1 returned, at
    the entry guard of step j ≤ k.  Whatever the peer would have done with that request, it is never
    issued. -/
theorem stall_cancel_before (w : World) (a : List Step) (s : Step) (rest : List (Step × StepEnv)) (c : CtxErr)
    (peer : Peer) (mid : Option CtxErr) (hc : w.cancellable = true) (hn : w.err = none) (hcl : w.closed = false)
    (hs : s.onErr = .abort) :
    run cur w (quiet a ++ (s, { pre := some c, peer := peer, mid := mid }) :: rest) =
      ({ w with err := some c, closed := true, io := w.io + a.length }, .ctx c) := by
  have hst := step_guard cur { w with io := w.io + a.length } ⟨some c, peer, mid⟩ c hc hn rfl
  rw [run_quiet_stop cur w a s rest hn hcl hst (.inr ⟨hs, nofun⟩)]
  simp only [cur, Bool.or_true]

/-- Cancellation lands after the request completed — or failed on its own — and before `stop()`:
    the context's error wins over the I/O result, and once the watcher has run (`settle`: needs
    nobody's help) the connection is closed. -/
theorem cancel_in_stop_window (w : World) (a : List Step) (s : Step) (rest : List (Step × StepEnv)) (c : CtxErr)
    (peer : Peer) (hc : w.cancellable = true) (hn : w.err = none) (hcl : w.closed = false)
    (hs : s.onErr = .abort) (hp : peer ≠ .stall) :
    (run cur w (quiet a ++ (s, { pre := none, peer := peer, mid := some c }) :: rest)).2 = .ctx c ∧
    (settle (run cur w (quiet a ++ (s, { pre := none, peer := peer, mid := some c }) :: rest)).1).closed = true := by
  have hst := step_mid cur { w with io := w.io + a.length } ⟨none, peer, some c⟩ c hc hn rfl rfl
  rw [run_quiet_stop cur w a s rest hn hcl hst (.inr ⟨hs, nofun⟩), if_neg (hp ·.2)]
  exact ⟨rfl, Bool.or_true _⟩

/-- Clause "the context's own error for plain stream operations".  A plain stream operation aborts on
    the first failing step.  If the context has fired by the time the operation returns, what it
    returns is exactly the context's error (`context.Canceled` / `context.DeadlineExceeded`; the Go
    callers wrap it with `%w`, so `errors.Is` holds) — never an I/O error of the closed connection,
    never success.  (`hp`: the operation with no I/O step at all on an already-fired context is the
    exception.) -/
theorem plain_error_is_ctx (gc : Bool) (w : World) (p : List (Step × StepEnv)) (c : CtxErr)
    (ha : allAbort p) (hp : p ≠ []) (h : (run gc w p).1.err = some c) : (run gc w p).2 = .ctx c := by
  obtain ⟨w₁, x, hx, hw, hr | ⟨-, hs⟩⟩ := run_last gc w p hp
  · rw [hr, step_ctx_iff, ← hw]; exact h
  · rw [ha x hx] at hs; cases hs

/-- conversely a call returns the context's error only if the context has fired -/
theorem ctx_error_only_if_fired (gc : Bool) (w : World) (e : StepEnv) (c : CtxErr)
    (h : (step gc w e).2 = .ctx c) : (step gc w e).1.err = some c :=
  (step_ctx_iff gc w e c).mp h

/-- Clause "the connection is then closed rather than left half-used".  If the context has fired by
    the time the operation returns, then after the watcher (if one was started) has run the
    connection is closed.  This covers all three positions: entry guard, during the request, and
    the window before `stop()`. -/
theorem closed_on_cancel (w : World) (p : List (Step × StepEnv)) (c : CtxErr) (hp : p ≠ [])
    (h : (run cur w p).1.err = some c) : (settle (run cur w p).1).closed = true := by
  obtain ⟨w₁, x, -, hw, -⟩ := run_last cur w p hp
  rw [hw] at h ⊢
  rcases step_closed w₁ x.2 c h with h' | h' <;> simp [settle, h']

/-- F-C19-guard-leaves-open: without the Close in the entry guard (`run false`) the clause of
    `closed_on_cancel` fails — a cancellation observed at the entry guard returns the context's error
    with the connection open and no watcher started.  Witness: one read, context cancelled before
    it (the `stall` engine's schedule `guard` on the real code). -/
theorem guard_without_close_leaves_open :
    ¬ (∀ (w : World) (p : List (Step × StepEnv)) (c : CtxErr), p ≠ [] → (run false w p).1.err = some c →
        (settle (run false w p).1).closed = true) := by
  intro h
  have := h { cancellable := true } [({ kind := .rd }, { pre := some .canceled, peer := .stall })] .canceled
    (by simp) (by decide)
  revert this
  decide +kernel

/-- Last sentence of the property.  With a context whose `Done()` is nil (context.Background / TODO)
    every operation is exactly the bare I/O: same result, same number of requests, and context and
    connection state untouched — whatever "cancellation" events the environment contains. -/
theorem never_cancellable_adds_nothing (gc : Bool) (w : World) (p : List (Step × StepEnv))
    (hc : w.cancellable = false) (hn : w.err = none) :
    run gc w p = ({ w with io := (bareRun w.closed p w.io).1 }, (bareRun w.closed p w.io).2) :=
  run_bare gc w p hn (Or.inl hc)

/-- The same for a cancellable context that does not fire during the operation (the watcher is
    registered and removed again without a trace). -/
theorem unfired_adds_nothing (gc : Bool) (w : World) (p : List (Step × StepEnv))
    (hs : silent p) (hn : w.err = none) :
    run gc w p = ({ w with io := (bareRun w.closed p w.io).1 }, (bareRun w.closed p w.io).2) :=
  run_bare gc w p hn (Or.inr hs)

/-- The stall is real: without a cancellation the k-th request blocks the operation, cancellable
    context or not — so `unblocks` is not vacuous. -/
theorem stall_blocks_without_cancel (gc : Bool) (w : World) (a : List Step) (s : Step) (rest : List (Step × StepEnv))
    (hn : w.err = none) (hcl : w.closed = false) :
    run gc w (quiet a ++ (s, { pre := none, peer := .stall, mid := none }) :: rest) =
      ({ w with io := w.io + a.length + 1 }, .blocked) := by
  have hst := step_bare gc { w with io := w.io + a.length } { pre := none, peer := .stall, mid := none } hn
    (.inr ⟨rfl, rfl⟩)
  rw [show bareStep w.closed .stall = .blocked by rw [hcl]; rfl] at hst
  exact run_quiet_stop gc w a s rest hn hcl hst (.inl rfl)

/-- the call sites that may read or write through the connection -/
def declaredConnIO : List (String × String × String × String) := [
  ("stream/stream.go", "readWithContext", "io.ReadFull(s.reader", ""),
  ("stream/stream.go", "writeWithContext", "s.writer.Write", "")]

/-- every use of the Stream fields conn / reader / writer, examined: none of them reads or writes
    outside readWithContext / writeWithContext (`GetConnection` hands the raw connection to the
    caller for the TLS upgrade; `SetTimeout` only type-asserts for socket options). -/
def declaredConnUses : List (String × String × String × String) := [
  ("stream/stream.go", "Close", "conn", "call:Close"),
  ("stream/stream.go", "GetConnection", "conn", "return"),
  ("stream/stream.go", "IsConnected", "conn", "nilcheck"),
  ("stream/stream.go", "SetConnection", "conn", "assign"),
  ("stream/stream.go", "SetConnection", "reader", "assign"),
  ("stream/stream.go", "SetConnection", "writer", "assign"),
  ("stream/stream.go", "SetTimeout", "conn", "assert:*net.TCPConn"),
  ("stream/stream.go", "readWithContext", "conn", "call:Close"),
  ("stream/stream.go", "readWithContext", "conn", "nilcheck"),
  ("stream/stream.go", "readWithContext", "reader", "arg:io.ReadFull"),
  ("stream/stream.go", "writeWithContext", "conn", "call:Close"),
  ("stream/stream.go", "writeWithContext", "conn", "nilcheck"),
  ("stream/stream.go", "writeWithContext", "writer", "call:Write")]

/-- `CedarGen.FactsIO.connIO`, `connUses`: every call in stream/ that reads or writes through the
    connection is one of the declared sites, all of which lie inside readWithContext /
    writeWithContext; and every mention of the connection fields is a declared, examined use. -/
theorem all_io_wrapped :
    (∀ x ∈ CedarGen.FactsIO.connIO, x ∈ declaredConnIO) ∧
    (∀ x ∈ declaredConnIO, x.2.1 = "readWithContext" ∨ x.2.1 = "writeWithContext") ∧
    (∀ x ∈ CedarGen.FactsIO.connUses, x ∈ declaredConnUses) ∧
    (∀ x ∈ declaredConnUses, (x.2.2.2 = "call:Write" ∨ x.2.2.2 = "call:Read" ∨ x.2.2.2 = "arg:io.ReadFull") →
        (x.2.1 = "readWithContext" ∨ x.2.1 = "writeWithContext")) := by
  decide +kernel

/-- the examined exceptions to `ctx_threaded` -/
def declaredCtxFresh : List (String × String × String × String) := [
  -- demo wrapper, not on any handshake path
  ("security/auth.go", "PerformTokenAuthenticationDemo", "context.Background()", ""),
  -- exported pre-context entry points kept for API compatibility (F-C19-scitokens-noctx): each only
  -- forwards to its ...Context variant; the handshake (exchangeSciToken) calls the variant with its own context
  ("security/scitoken_auth.go", "DiscoverOIDCConfiguration", "context.Background()", ""),
  ("security/scitoken_auth.go", "FetchJWKS", "context.Background()", ""),
  ("security/scitoken_auth.go", "VerifySciToken", "context.Background()", "")]

def declaredCtxForeign : List (String × String × String × String) := [
  -- CEDARTLSConnection carries the handshake's own context (stored below) into crypto/tls's Read/Write
  ("security/ssl_auth.go", "Read", "c.ctx", "c.receiveMessage"),
  ("security/ssl_auth.go", "Write", "c.ctx", "c.sendMessage"),
  ("security/ssl_auth.go", "flushBufferedData", "c.ctx", "c.sendMessage")]

def declaredCtxStored : List (String × String × String × String) := [
  ("security/ssl_auth.go", "performTLSHandshake", "CEDARTLSConnection.ctx", "derived")]

/-- `CedarGen.FactsIO.ctxFresh`, `ctxForeign`, `ctxStored`: in stream/, security/ and message/ no call
    passes a context that is not derived from the enclosing function's own context parameter, except
    the declared sites: the `context.Background()` of the demo wrapper and of the three pre-context
    SciToken entry points, and `CEDARTLSConnection.ctx`, which is stored exactly once and from the
    handshake's own context parameter. -/
theorem ctx_threaded :
    (∀ x ∈ CedarGen.FactsIO.ctxFresh, x ∈ declaredCtxFresh) ∧
    (∀ x ∈ CedarGen.FactsIO.ctxForeign, x ∈ declaredCtxForeign) ∧
    (∀ x ∈ CedarGen.FactsIO.ctxStored, x ∈ declaredCtxStored) ∧
    (∀ x ∈ declaredCtxStored, x.2.2.2 = "derived") ∧
    (∀ x ∈ declaredCtxForeign, x.2.2.1 = "c.ctx") := by
  decide +kernel

/-- the examined exceptions of the table of blocking calls that take no context.
    `kerberosClient` asks the KDC for a service ticket through gokrb5, whose client API has no
    context parameter: a KERBEROS handshake cannot be cancelled during that round trip (bounded by
    the library's own KDC timeouts). OPEN — recorded here so that it stays visible; it needs a
    change of dependency or a watchdog goroutine, and Kerberos cannot run in this environment. -/
def declaredNoCtx : List (String × String × String × String) := [
  ("security/kerberos_auth.go", "kerberosClient", "cl.GetServiceTicket", "kerberos")]

/-- `CedarGen.FactsNoCtx.blocking`: `ctx_threaded` vouches for the context ARGUMENTS that exist; this
    one for the calls that have none. In security/ no function calls a blocking network or timer API
    that takes no context (`net.Dial*`, `http.Get/Post/...`, `(*http.Client).Get/Post/Head`,
    `(*http.Client).Do` on a request not built with a context, `tls.Dial`, `time.Sleep`,
    `exec.Command`, gokrb5 ticket requests) except the declared site. -/
theorem no_contextless_blocking :
    ∀ x ∈ CedarGen.FactsNoCtx.blocking, x ∈ declaredNoCtx := by
  decide +kernel

/-- F-C19-scitokens-noctx: the table with the two `client.Get` of SciToken verification (reached from
    the server side of a SCITOKENS handshake through `VerifySciToken`) violates the clause -/
theorem no_contextless_blocking_prefix_fails :
    ¬ (∀ x ∈ [("security/kerberos_auth.go", "kerberosClient", "cl.GetServiceTicket", "kerberos"),
              ("security/scitoken_auth.go", "DiscoverOIDCConfiguration", "(*http.Client).Get", "no context"),
              ("security/scitoken_auth.go", "FetchJWKS", "(*http.Client).Get", "no context")], x ∈ declaredNoCtx) := by
  decide +kernel

private def live : World := { cancellable := true }
private def bg : World := { cancellable := false }
private def rd : Step := { kind := .rd }
private def wr : Step := { kind := .wr }

-- ReceiveFrame (header read, body read) with the body stalled and a cancel during the stall
example : run cur live [(rd, {}), (rd, { peer := .stall, mid := some .canceled })] =
    ({ cancellable := true, err := some .canceled, closed := true, io := 2 }, .ctx .canceled) := by decide +kernel
-- the same stall under context.Background blocks, exactly like the bare read
example : run cur bg [(rd, {}), (rd, { peer := .stall, mid := some .canceled })] =
    ({ cancellable := false, io := 2 }, .blocked) := by decide +kernel
-- deadline passed before the operation: nothing is issued, connection closed
example : run cur live [(wr, { pre := some .deadline, peer := .stall })] =
    ({ cancellable := true, err := some .deadline, closed := true, io := 0 }, .ctx .deadline) := by decide +kernel
-- without the Close in the entry guard the same run leaves the connection open
example : run false live [(wr, { pre := some .deadline, peer := .stall })] =
    ({ cancellable := true, err := some .deadline, closed := false, io := 0 }, .ctx .deadline) := by decide +kernel
-- an I/O error with an unfired context stays the I/O error
example : run cur live [(wr, {}), (rd, { peer := .fail .eof })] = ({ cancellable := true, io := 2 }, .io .eof) := by decide +kernel
-- a retry loop that swallows errors drains without I/O after the cancel and ends at its aborting step
example : run cur live [({ kind := .rd, onErr := .swallow }, { peer := .stall, mid := some .canceled }),
      ({ kind := .wr, onErr := .swallow }, {}), (rd, {})] =
    ({ cancellable := true, err := some .canceled, closed := true, io := 1 }, .ctx .canceled) := by decide +kernel
-- cancellation in the window before stop(): the context's error wins, close is asynchronous
example : run cur live [(wr, { mid := some .canceled })] =
    ({ cancellable := true, err := some .canceled, closing := true, io := 1 }, .ctx .canceled) := by decide +kernel

/-- The regenerated tables `all_io_wrapped`, `ctx_threaded` and `no_contextless_blocking` quantify over
    are inhabited and see what they are about: a renamed field or a moved package cannot make the
    inclusions hold by emptying the tables (the generator also refuses to write an empty table).
    The further obligations on these tables are in CedarProofs/GenNonEmpty.lean, built with this file. -/
theorem fact_tables_not_vacuous :
    CedarGen.FactsIO.connIO ≠ [] ∧ CedarGen.FactsIO.connUses ≠ [] ∧
    (∃ x ∈ CedarGen.FactsIO.connIO, x.2.1 = "readWithContext") ∧
    (∃ x ∈ CedarGen.FactsIO.connIO, x.2.1 = "writeWithContext") ∧
    50 ≤ CedarGen.FactsIO.funcsScanned ∧ 50 ≤ CedarGen.FactsNoCtx.funcsScanned ∧ 200 ≤ CedarGen.FactsNoCtx.callsScanned :=
  open GenNonEmpty in
  ⟨connIO_nonempty, connUses_nonempty, connIO_has_read_and_write.1, connIO_has_read_and_write.2.1,
    ctx_scan_nonempty.1, noctx_scan_nonempty.1, noctx_scan_nonempty.2.1⟩

end Cedar.C19
