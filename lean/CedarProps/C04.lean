/-
  C04 — The cleartext handshake is bound into the secure channel.
  Relative to the symbolic hash (free constructor `Digest.H`, DESIGN §3).
-/
import CedarProps.C02

namespace Cedar.C04
open Cedar

/-- while the send digest is not frozen, every frame `sendMessageWithEnd` emits in the clear is fed
    to it, header and payload, in order. -/
theorem sent_frames_are_fed (s s' : Stream) (d : Bytes) (fl : Nat) (f : WireFrame)
    (hfin : s.dig.finalSend = none) (hc : s.crypting = false)
    (h : s.sendFrame d fl = .ok (s', f)) :
    s'.dig.sendFed = s.dig.sendFed ++ (hdrBytes fl d.length ++ d) ∧ s'.dig.sendWritten = true ∧
    f = ⟨fl, d.length, .raw d⟩ ∧ s'.dig.finalSend = none ∧ s'.dig.recvFed = s.dig.recvFed := by
  obtain ⟨_, rfl, rfl⟩ := (sendFrame_plain_ok hc).mp h
  simp [Dig.feedSend, hfin]

/-- while the receive digest is not frozen, every cleartext frame `ReceiveFrameWithEnd` accepts —
    empty ones included — is fed to it, header and payload. -/
theorem received_frames_are_fed (s s' : Stream) (f : WireFrame) (p : Bytes) (fl : Nat)
    (hfin : s.dig.finalRecv = none) (hc : s.crypting = false) (hlen : f.len = f.body.wireLen)
    (h : s.recvFrameWithEnd f = .ok (s', p, fl)) :
    s'.dig.recvFed = s.dig.recvFed ++ (hdrBytes f.flag f.len ++ p) ∧ s'.dig.recvWritten = true ∧
    f.body = .raw p ∧ fl = f.flag ∧ s'.dig.finalRecv = none ∧ s'.dig.sendFed = s.dig.sendFed := by
  obtain ⟨_, rfl, hb, rfl⟩ := (recvFrameWithEnd_plain_ok hc).mp h
  have hbody : f.body = .raw p := by
    split at hb
    · -- an empty frame: the header length is the body's, so the body is the empty byte string
      rename_i h0
      rw [h0] at hlen
      subst hb
      cases hbody : f.body with
      | raw b => rw [hbody, Body.wireLen] at hlen; rw [List.eq_nil_of_length_eq_zero hlen.symm]
      | ct iv sl => rw [hbody] at hlen; exact absurd hlen (Nat.ne_of_lt (Body.wireLen_ct_pos iv sl))
    · exact hb
  simp [Stream.feedRecv, Dig.feedRecv, hfin, hbody]

/-- if a receiver accepts, as the first protected frame of a direction, the seal a sender produced as
    ITS first protected frame, then the receiver's (received, sent) digests equal the sender's
    (sent, received) digests. -/
theorem transcript_binding (S S' R R' : Stream) (k : Nat) (d p : Bytes) (fl fl' : Nat) (f g : WireFrame)
    (hSk : S.key = some k) (hSe : S.encrypted = true) (hSc : S.encCtr = 0) (hSf : S.finSendAAD = false)
    (hsend : S.sendFrame d fl = .ok (S', f))
    (hRk : R.key = some k) (hRe : R.encrypted = true) (hRc : R.decCtr = 0) (hRf : R.finRecvAAD = false)
    (hsame : ∃ ivo ivo' sl, f.body = .ct ivo sl ∧ g.body = .ct ivo' sl)   -- the relay may re-head / re-IV it, not re-seal it
    (hrecv : R.recvFrameWithEnd g = .ok (R', p, fl')) :
    R.dig.fr = S.dig.fs ∧ R.dig.fs = S.dig.fr := by
  obtain ⟨ivo, ivo', sl, hfb, hgb⟩ := hsame
  obtain ⟨_, _, rfl, _⟩ := (sendFrame_keyed_ok hSk hSe).mp hsend
  obtain ⟨_, _, _, iv, hopen, _⟩ := (recvFrameWithEnd_keyed_ok hRk hRe).mp hrecv
  obtain ⟨_, c, hgb', _, _, _, haad, _⟩ := openBody_ok hopen
  cases hgb.symm.trans hgb'
  cases hfb
  -- the sender's first seal carries (S.fs, S.fr); the receiver opens only one carrying (R.fr, R.fs)
  have hd : (if S.finSendAAD then none else some (S.dig.fs, S.dig.fr)) =
      (if R.finRecvAAD then none else some (R.dig.fr, R.dig.fs)) := congrArg Aad.digests haad
  rw [hSf, hRf, if_neg Bool.false_ne_true, if_neg Bool.false_ne_true] at hd
  obtain ⟨h1, h2⟩ := Prod.mk.inj (Option.some.inj hd)
  exact ⟨h1.symm, h2.symm⟩

/-- with the free hash, equal digests mean equal transcripts: both endpoints fed exactly the same
    cleartext bytes (frame headers included, hence the same frame boundaries) in that direction,
    or neither exchanged any -/
theorem same_digest_same_bytes (a b : Bytes) (wa wb : Bool)
    (h : (if wa then Digest.H a else Digest.zero) = (if wb then Digest.H b else Digest.zero)) :
    wa = wb ∧ (wa = true → a = b) := by
  cases wa with
  | false => cases wb with
    | false => exact ⟨rfl, nofun⟩
    | true => exact nomatch h
  | true => cases wb with
    | false => exact nomatch h
    | true => exact ⟨rfl, fun _ => Digest.H.inj h⟩

/-- if what the receiver saw in the clear (in either direction) differs from what the sender saw,
    the first protected frame does not authenticate — no application data is accepted over a
    channel whose negotiation was tampered with. -/
theorem tamper_kills_first_frame (S S' R : Stream) (k : Nat) (d : Bytes) (fl : Nat) (f g : WireFrame)
    (hSk : S.key = some k) (hSe : S.encrypted = true) (hSc : S.encCtr = 0) (hSf : S.finSendAAD = false)
    (hsend : S.sendFrame d fl = .ok (S', f))
    (hRk : R.key = some k) (hRe : R.encrypted = true) (hRc : R.decCtr = 0) (hRf : R.finRecvAAD = false)
    (hsame : ∃ ivo ivo' sl, f.body = .ct ivo sl ∧ g.body = .ct ivo' sl)
    (hdiff : R.dig.fr ≠ S.dig.fs ∨ R.dig.fs ≠ S.dig.fr) :
    ∃ e, R.recvFrameWithEnd g = .error e :=
  except_error_of_not_ok _ fun ⟨R', p, fl'⟩ hr =>
    have := transcript_binding S S' R R' k d p fl fl' f g hSk hSe hSc hSf hsend hRk hRe hRc hRf hsame hr
    hdiff.elim (absurd this.1) (absurd this.2)

/-! Non-vacuity (tests): an honest cleartext exchange binds; one flipped cleartext byte kills the
    first protected frame. -/
def exch (tamper : Bool) : Option Bool :=
  let a : Stream := {}
  let b : Stream := {}
  match a.sendFrame [1, 2, 3] 1 with
  | .ok (a1, f) =>
    let f' : WireFrame := if tamper then { f with body := .raw [1, 2, 4] } else f
    match b.recvFrameWithEnd f' with
    | .ok (b1, _, _) =>
      let a2 := a1.setKey 9 ⟨1, []⟩
      let b2 := b1.setKey 9 ⟨2, []⟩
      match a2.sendFrame [7] 1 with
      | .ok (_, g) => some (b2.recvFrameWithEnd g).isOk
      | .error _ => none
    | .error _ => none
  | .error _ => none
example : exch false = some true := by decide +kernel
example : exch true = some false := by decide +kernel

/-- what the digest is fed for a sequence of cleartext frames: header and payload of each, in order -/
def fedOf (fs : List (Nat × Bytes)) : Bytes := (fs.map (fun f => encodeRawFrame f.1 f.2)).flatten

def FrameOK (f : Nat × Bytes) : Prop := f.1 ≤ maxEndFlag ∧ f.2.length ≤ maxMessageSize

/-- the bytes fed to a digest determine the SEQUENCE OF FRAMES that were exchanged — their number,
    their end flags, their lengths and their payloads — not just the concatenated payload. So two
    endpoints whose digests agree (`same_digest_same_bytes`) saw the same frames: splitting a frame
    in two, merging two, inserting or removing an empty one, or rewriting an end flag in transit
    changes the transcript although the message parses the same. -/
theorem transcript_determines_frames : ∀ (fs gs : List (Nat × Bytes)),
    (∀ f ∈ fs, FrameOK f) → (∀ g ∈ gs, FrameOK g) → fedOf fs = fedOf gs → fs = gs
  | [], [], _, _, _ => rfl
  | [], g :: gs, _, _, h => by
    simp [fedOf, encodeRawFrame, hdrBytes] at h
  | f :: fs, [], _, _, h => by
    simp [fedOf, encodeRawFrame, hdrBytes] at h
  | f :: fs, g :: gs, hf, hg, h => by
    obtain ⟨hf1, hf2⟩ := hf f (List.mem_cons_self ..)
    obtain ⟨hg1, hg2⟩ := hg g (List.mem_cons_self ..)
    have e : hdrBytes f.1 f.2.length ++ (f.2 ++ fedOf fs) = hdrBytes g.1 g.2.length ++ (g.2 ++ fedOf gs) := by
      simpa [fedOf, encodeRawFrame] using h
    -- the header is a prefix code: same flag and length, hence same payload and same rest
    have hp := congrArg parseHdr e
    rw [parseHdr_hdrBytes (Nat.lt_of_le_of_lt hf1 (by decide)) (Nat.lt_of_le_of_lt hf2 (by decide)),
      parseHdr_hdrBytes (Nat.lt_of_le_of_lt hg1 (by decide)) (Nat.lt_of_le_of_lt hg2 (by decide))] at hp
    obtain ⟨e1, hp⟩ := Prod.mk.inj (Option.some.inj hp)
    obtain ⟨e2, e3⟩ := Prod.mk.inj hp
    obtain ⟨e4, e5⟩ := List.append_inj e3 e2
    rw [Prod.ext e1 e4, transcript_determines_frames fs gs (fun x hx => hf x (List.mem_cons_of_mem _ hx))
      (fun x hx => hg x (List.mem_cons_of_mem _ hx)) e5]

/-- a message delivered as two frames and the same message delivered as one have different transcripts -/
example : fedOf [(0, [1, 2]), (1, [3])] ≠ fedOf [(1, [1, 2, 3])] := by decide +kernel
/-- an empty partial frame changes the transcript; so does another accepted end flag -/
example : fedOf [(0, []), (1, [7])] ≠ fedOf [(1, [7])] := by decide +kernel
example : fedOf [(2, [7])] ≠ fedOf [(1, [7])] := by decide +kernel

def digestOf (fs : List (Nat × Bytes)) : Digest := if fs = [] then .zero else .H (fedOf fs)

/-- the running (not yet frozen) send / receive transcript of `s` is the frame list `fs` -/
def SentIs (s : Stream) (fs : List (Nat × Bytes)) : Prop :=
  s.dig.finalSend = none ∧ s.dig.sendFed = fedOf fs ∧ s.dig.sendWritten = !fs.isEmpty
def RecvdIs (s : Stream) (fs : List (Nat × Bytes)) : Prop :=
  s.dig.finalRecv = none ∧ s.dig.recvFed = fedOf fs ∧ s.dig.recvWritten = !fs.isEmpty

theorem fedOf_append (fs : List (Nat × Bytes)) (fl : Nat) (d : Bytes) :
    fedOf (fs ++ [(fl, d)]) = fedOf fs ++ (hdrBytes fl d.length ++ d) := by
  simp [fedOf, encodeRawFrame]

/-- every cleartext frame sent extends the sender's transcript by exactly that frame -/
theorem sentIs_step (s s' : Stream) (fs : List (Nat × Bytes)) (d : Bytes) (fl : Nat) (f : WireFrame)
    (h : SentIs s fs) (hc : s.crypting = false) (hs : s.sendFrame d fl = .ok (s', f)) :
    SentIs s' (fs ++ [(fl, d)]) := by
  obtain ⟨h1, h2, _⟩ := h
  obtain ⟨a, b, _, c, _⟩ := sent_frames_are_fed s s' d fl f h1 hc hs
  exact ⟨c, by rw [a, h2, fedOf_append], by simp [b]⟩

/-- every cleartext frame accepted extends the receiver's transcript by exactly that frame -/
theorem recvdIs_step (s s' : Stream) (fs : List (Nat × Bytes)) (f : WireFrame) (p : Bytes) (fl : Nat)
    (h : RecvdIs s fs) (hc : s.crypting = false) (hlen : f.len = f.body.wireLen) (hp : f.len = p.length)
    (hr : s.recvFrameWithEnd f = .ok (s', p, fl)) :
    RecvdIs s' (fs ++ [(fl, p)]) := by
  obtain ⟨h1, h2, _⟩ := h
  obtain ⟨a, b, _, e, c, _⟩ := received_frames_are_fed s s' f p fl h1 hc hlen hr
  exact ⟨c, by rw [a, h2, fedOf_append, e, hp], by simp [b]⟩

theorem sentIs_fs (s : Stream) (fs : List (Nat × Bytes)) (h : SentIs s fs) : s.dig.fs = digestOf fs := by
  obtain ⟨h1, h2, h3⟩ := h
  simp [Dig.fs, h1, h2, h3, digestOf]

theorem recvdIs_fr (s : Stream) (fs : List (Nat × Bytes)) (h : RecvdIs s fs) : s.dig.fr = digestOf fs := by
  obtain ⟨h1, h2, h3⟩ := h
  simp [Dig.fr, h1, h2, h3, digestOf]

theorem setKey_keeps_digests (s : Stream) (k : Nat) (iv : IV) :
    (s.setKey k iv).dig.fs = s.dig.fs ∧ (s.setKey k iv).dig.fr = s.dig.fr :=
  ⟨setKey_fs s k iv, setKey_fr s k iv⟩

theorem digestOf_inj (fs gs : List (Nat × Bytes)) (hf : ∀ f ∈ fs, FrameOK f) (hg : ∀ g ∈ gs, FrameOK g)
    (h : digestOf fs = digestOf gs) : fs = gs := by
  unfold digestOf at h
  by_cases a : fs = [] <;> by_cases b : gs = []
  · rw [a, b]
  · simp [a, b] at h
  · simp [a, b] at h
  · simp only [a, b, if_false, Digest.H.injEq] at h
    exact transcript_determines_frames fs gs hf hg h

/-- the property's first sentence in one statement. Let the sender have SENT the cleartext frames
    `sS` and RECEIVED `rS` before it installed its key, and the receiver have RECEIVED `rR` and SENT
    `sR` before it installed the same key (histories as built by `sentIs_step` / `recvdIs_step`
    from every frame the stream code emits or accepts, empty frames and every accepted end flag
    included). If the receiver accepts, as the first protected frame of the direction, the seal the
    sender produced as its first protected frame, then `rR = sS` and `sR = rS`: both endpoints have
    seen exactly the same sequence of cleartext frames — number, end flags, lengths and payloads —
    in each direction. Contrapositive: any edit of the cleartext phase (byte, flag, insertion,
    removal, split, merge), in either direction, makes the first protected frame fail. -/
theorem accept_means_same_frames (S0 R0 S S' R R' : Stream) (k : Nat) (ivS ivR : IV) (d p : Bytes) (fl fl' : Nat)
    (f g : WireFrame) (sS rS rR sR : List (Nat × Bytes))
    (hsS : SentIs S0 sS) (hrS : RecvdIs S0 rS) (hrR : RecvdIs R0 rR) (hsR : SentIs R0 sR)
    (hS : S = S0.setKey k ivS) (hR : R = R0.setKey k ivR)
    (hok : (∀ x ∈ sS, FrameOK x) ∧ (∀ x ∈ rS, FrameOK x) ∧ (∀ x ∈ rR, FrameOK x) ∧ (∀ x ∈ sR, FrameOK x))
    (hsend : S.sendFrame d fl = .ok (S', f))
    (hsame : ∃ ivo ivo' sl, f.body = .ct ivo sl ∧ g.body = .ct ivo' sl)
    (hrecv : R.recvFrameWithEnd g = .ok (R', p, fl')) :
    rR = sS ∧ sR = rS := by
  subst hS hR
  obtain ⟨oksS, okrS, okrR, oksR⟩ := hok
  have hb := transcript_binding _ S' _ R' k d p fl fl' f g rfl rfl rfl rfl hsend rfl rfl rfl rfl hsame hrecv
  rw [setKey_fs, setKey_fr, setKey_fs, setKey_fr, sentIs_fs _ _ hsS, recvdIs_fr _ _ hrS, recvdIs_fr _ _ hrR,
    sentIs_fs _ _ hsR] at hb
  exact ⟨digestOf_inj _ _ okrR oksS hb.1, digestOf_inj _ _ oksR okrS hb.2⟩

/-- non-vacuity: a fresh stream has the empty history, and one cleartext send gives a one-frame history -/
example : SentIs ({} : Stream) [] ∧ RecvdIs ({} : Stream) [] := by
  refine ⟨⟨rfl, rfl, rfl⟩, ⟨rfl, rfl, rfl⟩⟩
example : ∃ s' f, ({} : Stream).sendFrame [1, 2, 3] 1 = .ok (s', f) ∧ SentIs s' [(1, [1, 2, 3])] := by
  refine ⟨_, _, rfl, ?_⟩
  exact sentIs_step {} _ [] [1, 2, 3] 1 _ ⟨rfl, rfl, rfl⟩ rfl rfl

/-! ### The same, without assuming which seal the accepted frame carries

`accept_means_same_frames` assumes `hsame` (the accepted frame carries the sender's first seal).
Below that is DERIVED: the frame `g` is ANY frame of the C02 adversary's closure (`C02.AdvWire`:
arbitrary headers; body = arbitrary bytes, or any seal the sender emitted in `sent`, first or later,
or any seal the receiving endpoint itself emitted in `own`, reflected; IV prefix kept, stripped or
replaced; seals under other keys at will). -/

/-- at the `decryptDataWithAAD` level -/
theorem same_frames_of_open (S0 R0 S' R' : Stream) (k : Nat) (ivS ivR : IV)
    (ops opsR : List SendOp) (sent own : List WireFrame) (g : WireFrame) (p : Bytes) (ivr : IV)
    (sS rS rR sR : List (Nat × Bytes))
    (hsS : SentIs S0 sS) (hrS : RecvdIs S0 rS) (hrR : RecvdIs R0 rR) (hsR : SentIs R0 sR)
    (hok : (∀ x ∈ sS, FrameOK x) ∧ (∀ x ∈ rS, FrameOK x) ∧ (∀ x ∈ rR, FrameOK x) ∧ (∀ x ∈ sR, FrameOK x))
    (hivS : ivS.w0 < 2^32) (hivR : ivR.w0 < 2^32) (hsep : ivS.tail ≠ ivR.tail)
    (hsend : (S0.setKey k ivS).sendAll ops = .ok (S', sent))
    (hown : (R0.setKey k ivR).sendAll opsR = .ok (R', own))
    (hadv : C02.AdvWire k sent own [g])
    (hopen : (R0.setKey k ivR).openBody k g = .ok (ivr, p)) :
    rR = sS ∧ sR = rS ∧
    ∃ f ivo sl, sent.head? = some f ∧ f.body = .ct ivo sl ∧ g.body = .ct (some ivS) sl ∧ sl.plain = p := by
  obtain ⟨oksS, okrS, okrR, oksR⟩ := hok
  obtain ⟨items, rfl, _, hlim, _, _⟩ := sendAll_spec (setKey_sendInv S0 k ivS) hsend
  obtain ⟨itemsR, hownE, _, _, _, _⟩ := sendAll_spec (setKey_sendInv R0 k ivR) hown
  have hg := C02.advWireS_advFrameO (dgR := (R0.dig.fs, R0.dig.fr)) hsep rfl hownE
    (C02.oldConnections_nil k ivS ((R0.setKey k ivR).dig.fr, (R0.setKey k ivR).dig.fs)) (C02.advWire_advWireS hadv)
    g (List.mem_singleton.mpr rfl)
  -- what opens as the receiver's first frame is the sender's first frame, sealed over the sender's digests
  obtain ⟨it, hit, rfl, _, rfl, hdg⟩ := openBody_only_next hivS hlim (Nat.zero_le _) (setKey_recvInv R0 k ivR ivS)
    (fun _ => ⟨rfl, hivR, rfl⟩) hg hopen
  have hdg := hdg rfl
  rw [setKey_fr, setKey_fs, sentIs_fs _ _ hsS, recvdIs_fr _ _ hrS, recvdIs_fr _ _ hrR, sentIs_fs _ _ hsR] at hdg
  obtain ⟨hd1, hd2⟩ := Prod.mk.inj hdg
  refine ⟨digestOf_inj _ _ okrR oksS hd1.symm, digestOf_inj _ _ oksR okrS hd2.symm, ?_⟩
  cases items with
  | nil => cases hit
  | cons it0 tl =>
    cases hit
    exact ⟨_, _, _, rfl, rfl, rfl, rfl⟩

/-- the property's first sentence against the C02 adversary. The sender SENT cleartext frames `sS`
    and RECEIVED `rS` before installing its key, the receiver RECEIVED `rR` and SENT `sR` before
    installing the same key; then the sender's application performs ANY accepted send history
    `ops`, the receiving endpoint any `opsR` of its own, and the adversary presents ANY frame `g` of
    its closure. If `ReceiveFrameWithEnd` accepts `g` as the first protected frame of the direction,
    then `rR = sS` and `sR = rS` — both ends saw exactly the same cleartext frames in each direction
    — and `g` carries the sender's FIRST seal (what `accept_means_same_frames` assumed as `hsame`).
    One session hypothesis, as in C02: the two fresh IVs differ in their last 12 bytes. -/
theorem accept_means_same_frames_adv (S0 R0 S' R' R'' : Stream) (k : Nat) (ivS ivR : IV)
    (ops opsR : List SendOp) (sent own : List WireFrame) (g : WireFrame) (p : Bytes) (fl' : Nat)
    (sS rS rR sR : List (Nat × Bytes))
    (hsS : SentIs S0 sS) (hrS : RecvdIs S0 rS) (hrR : RecvdIs R0 rR) (hsR : SentIs R0 sR)
    (hok : (∀ x ∈ sS, FrameOK x) ∧ (∀ x ∈ rS, FrameOK x) ∧ (∀ x ∈ rR, FrameOK x) ∧ (∀ x ∈ sR, FrameOK x))
    (hivS : ivS.w0 < 2^32) (hivR : ivR.w0 < 2^32) (hsep : ivS.tail ≠ ivR.tail)
    (hsend : (S0.setKey k ivS).sendAll ops = .ok (S', sent))
    (hown : (R0.setKey k ivR).sendAll opsR = .ok (R', own))
    (hadv : C02.AdvWire k sent own [g])
    (hrecv : (R0.setKey k ivR).recvFrameWithEnd g = .ok (R'', p, fl')) :
    rR = sS ∧ sR = rS ∧
    ∃ f ivo sl, sent.head? = some f ∧ f.body = .ct ivo sl ∧ g.body = .ct (some ivS) sl ∧ sl.plain = p := by
  obtain ⟨ivr, hopen⟩ := C02.no_bypass _ R'' k g p fl' rfl rfl hrecv
  exact same_frames_of_open S0 R0 S' R' k ivS ivR ops opsR sent own g p ivr sS rS rR sR hsS hrS hrR hsR hok
    hivS hivR hsep hsend hown hadv hopen

/-- the same when the first protected frame is read with plain `ReceiveFrame` (GetSecret / GetFile) -/
theorem accept_means_same_frames_adv_recvFrame (S0 R0 S' R' R'' : Stream) (k : Nat) (ivS ivR : IV)
    (ops opsR : List SendOp) (sent own : List WireFrame) (g : WireFrame) (p : Bytes)
    (sS rS rR sR : List (Nat × Bytes))
    (hsS : SentIs S0 sS) (hrS : RecvdIs S0 rS) (hrR : RecvdIs R0 rR) (hsR : SentIs R0 sR)
    (hok : (∀ x ∈ sS, FrameOK x) ∧ (∀ x ∈ rS, FrameOK x) ∧ (∀ x ∈ rR, FrameOK x) ∧ (∀ x ∈ sR, FrameOK x))
    (hivS : ivS.w0 < 2^32) (hivR : ivR.w0 < 2^32) (hsep : ivS.tail ≠ ivR.tail)
    (hsend : (S0.setKey k ivS).sendAll ops = .ok (S', sent))
    (hown : (R0.setKey k ivR).sendAll opsR = .ok (R', own))
    (hadv : C02.AdvWire k sent own [g])
    (hrecv : (R0.setKey k ivR).recvFrame g = .ok (R'', p)) :
    rR = sS ∧ sR = rS := by
  obtain ⟨ivr, hopen⟩ := C02.no_bypass_recvFrame _ R'' k g p rfl rfl hrecv
  have := same_frames_of_open S0 R0 S' R' k ivS ivR ops opsR sent own g p ivr sS rS rR sR hsS hrS hrR hsR hok
    hivS hivR hsep hsend hown hadv hopen
  exact ⟨this.1, this.2.1⟩

/-- contrapositive — if the two ends' cleartext histories differ in either direction, NO frame the
    adversary can build is accepted as the first protected frame. -/
theorem tamper_kills_first_frame_adv (S0 R0 S' R' : Stream) (k : Nat) (ivS ivR : IV)
    (ops opsR : List SendOp) (sent own : List WireFrame) (g : WireFrame)
    (sS rS rR sR : List (Nat × Bytes))
    (hsS : SentIs S0 sS) (hrS : RecvdIs S0 rS) (hrR : RecvdIs R0 rR) (hsR : SentIs R0 sR)
    (hok : (∀ x ∈ sS, FrameOK x) ∧ (∀ x ∈ rS, FrameOK x) ∧ (∀ x ∈ rR, FrameOK x) ∧ (∀ x ∈ sR, FrameOK x))
    (hivS : ivS.w0 < 2^32) (hivR : ivR.w0 < 2^32) (hsep : ivS.tail ≠ ivR.tail)
    (hsend : (S0.setKey k ivS).sendAll ops = .ok (S', sent))
    (hown : (R0.setKey k ivR).sendAll opsR = .ok (R', own))
    (hadv : C02.AdvWire k sent own [g])
    (hdiff : rR ≠ sS ∨ sR ≠ rS) :
    ∃ e, (R0.setKey k ivR).recvFrameWithEnd g = .error e :=
  except_error_of_not_ok _ fun ⟨R'', p, fl'⟩ hr =>
    have := accept_means_same_frames_adv S0 R0 S' R' R'' k ivS ivR ops opsR sent own g p fl' sS rS rR sR
      hsS hrS hrR hsR hok hivS hivR hsep hsend hown hadv hr
    hdiff.elim (absurd this.1) (absurd this.2.1)

/-! Non-vacuity: client sends one cleartext frame, server receives it; both key; the client's two
    protected frames form `sent`; the adversary presents the first one (in the closure, accepted). -/
private def cS0 : Stream := match ({} : Stream).sendFrame [1, 2, 3] 1 with | .ok (s, _) => s | .error _ => {}
private def cR0 : Stream := match ({} : Stream).recvFrameWithEnd ⟨1, 3, .raw [1, 2, 3]⟩ with | .ok (s, _, _) => s | .error _ => {}
private def cSent : List WireFrame := match (cS0.setKey 9 ⟨1, [1]⟩).sendAll [([7], 1), ([8], 1)] with | .ok (_, fs) => fs | .error _ => []
example : SentIs cS0 [(1, [1, 2, 3])] ∧ RecvdIs cS0 [] ∧ RecvdIs cR0 [(1, [1, 2, 3])] ∧ SentIs cR0 [] := by
  refine ⟨⟨rfl, rfl, rfl⟩, ⟨rfl, rfl, rfl⟩, ⟨rfl, rfl, rfl⟩, ⟨rfl, rfl, rfl⟩⟩
example : cSent.length = 2 ∧ ((cR0.setKey 9 ⟨2, [2]⟩).recvFrameWithEnd (cSent.headD default)).toBool = true := by decide +kernel
example : C02.AdvWire 9 cSent [] [cSent.headD default] := by
  intro g hg
  simp only [List.mem_singleton] at hg
  subst hg
  exact ⟨by decide, fun _ => .inl ⟨cSent.headD default, by decide, _, rfl⟩⟩

end Cedar.C04
