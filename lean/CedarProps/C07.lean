/-
  C07 — A client reuses a cached session only for the same server, command and tag.
-/
import CedarProofs.RouteInv

namespace Cedar.C07
open Cedar Cedar.SC

/-- the rendered command-map key determines the triple — for ALL tags, addresses and commands (commas
    and backslashes inside a part are escaped: F-C07-comma-collision) — so routes for different
    (tag, server, command) never collide -/
theorem key_injective (tag addr cmd tag' addr' cmd' : Str)
    (h : cmdKey tag addr cmd = cmdKey tag' addr' cmd') : tag = tag' ∧ addr = addr' ∧ cmd = cmd' :=
  cmdKey_injective h

/-- the colliding pair of F-C07-comma-collision (tag "a", server "b" vs no tag, server "a,b"); the
    example after it: a comma-free triple renders as `commandKey` prints it -/
theorem comma_triples_distinct :
    cmdKey "a".toList "b".toList "1".toList ≠ cmdKey [] "a,b".toList "1".toList := by decide +kernel
example : cmdKey "t".toList "<1.2.3.4:9618>".toList "60007".toList = "{t,<1.2.3.4:9618>,<60007>}".toList := by decide +kernel

theorem mapCommand_route (c : Cache) (tag addr cmd sid t a m : Str) :
    (c.mapCommand tag addr cmd sid).cmdMap.lookup (cmdKey t a m) =
      if (t, a, m) = (tag, addr, cmd) then some sid else c.cmdMap.lookup (cmdKey t a m) := by
  rw [Cache.mapCommand, lookup_insert]
  refine ite_cond_congr (propext ⟨fun hk => ?_, fun heq => ?_⟩)
  · obtain ⟨rfl, rfl, rfl⟩ := cmdKey_injective hk
    rfl
  · cases heq
    rfl

/-- a client resumes a session for (tag, server, command) only if the command map routes exactly that
    rendered triple to a session that is present, unexpired at that moment and keyed, and the server
    confirmed it. Which sessions a route can lead to is `routes_lead_home`. -/
theorem resume_only_routed (c : Cache) (now : Nat) (tag addr cmd : Str) (ans : ServerAnswer) (ra : Bool)
    (c' : Cache) (sid : Str) (key : Option Nat) (user : String) (auth : Bool)
    (h : clientTry c now tag addr cmd ans ra = (c', .resumed sid key user auth)) :
    ∃ sid' e, c.cmdMap.lookup (cmdKey tag addr cmd) = some sid' ∧ c.get sid' = some e ∧
      e.expired now = false ∧ e.key.isSome = true ∧ sid = e.id ∧ key = e.key ∧ ans = .authorized ∧
      auth = e.authenticated ∧ (ra = true → e.authenticated = true) := by
  obtain ⟨sid', e, hs, hr, rfl, rfl, rfl, _, rfl⟩ := clientTry_resumed (congrArg Prod.snd h)
  obtain ⟨hg, hx, hk, _, ha⟩ := resumable_eq_some.mp hr
  exact ⟨sid', e, hs, hg, hx, hk, rfl, rfl, rfl, rfl, ha⟩

/-- `WFm` as far as `get` sees it: a binding shadowed by a newer one is not constrained -/
def WF (c : Cache) : Prop := ∀ id e, c.get id = some e → e.id = id

theorem wf_empty : WF {} := by intro id e h; simp [Cache.get] at h

theorem wf_store (c : Cache) (e : Entry) (h : WF c) : WF (c.store e) := by
  intro id e' hg
  by_cases hid : id = e.id
  · subst hid; rw [get_store_self] at hg; injection hg with hg; rw [← hg]
  · rw [get_store_other c e id hid] at hg; exact h id e' hg

theorem wf_invalidate (c : Cache) (sid : Str) (h : WF c) : WF (c.invalidate sid) :=
  fun id e hg => h id e (get_invalidate_eq_some.mp hg).2

/-- when the server no longer knows the session (SID_NOT_FOUND) or the exchange breaks, the session
    is gone from the cache, no command route leads to it any more, and the cache stays well-formed
    (so the next handshake for that triple is a full one: `lookupByCommand` finds no session behind
    any route) -/
theorem drop_on_failure (c : Cache) (hwf : WF c) (now : Nat) (tag addr cmd : Str) (ans : ServerAnswer) (ra : Bool)
    (c' : Cache) (sid : Str) (hans : ans = .sidNotFound ∨ ans = .broken)
    (h : clientTry c now tag addr cmd ans ra = (c', .resumeFailed sid)) :
    c'.get sid = none ∧ (∀ p ∈ c'.cmdMap, p.2 ≠ sid) ∧ WF c' := by
  rw [clientTry_eq] at h
  split at h
  · cases h
  split at h
  · rename_i e _
    have : c' = c.invalidate e.id ∧ sid = e.id := by rcases hans with rfl | rfl <;> cases h <;> exact ⟨rfl, rfl⟩
    obtain ⟨rfl, rfl⟩ := this
    exact ⟨get_invalidate_self c e.id, invalidate_no_routes c e.id, wf_invalidate c e.id hwf⟩
  · cases h

/-- after the drop the same triple finds nothing to resume: the next handshake is full -/
theorem next_is_full (c : Cache) (now : Nat) (tag addr cmd sid : Str) (ans : ServerAnswer) (ra : Bool)
    (hnone : c.get sid = none) (hroute : c.cmdMap.lookup (cmdKey tag addr cmd) = some sid) :
    (clientTry c now tag addr cmd ans ra).2 = .full := by
  rw [clientTry_eq, hroute, Option.bind_some, resumable_eq_none.mpr fun e he => by rw [hnone] at he; cases he]
  split <;> rfl

/-- no route resolves to an invalidated session -/
theorem invalidate_removes_routes (c : Cache) (sid : Str) (now : Nat) (tag addr cmd : Str) (e : Entry)
    (hwf : WF c) (h : (c.invalidate sid).lookupByCommand now tag addr cmd = some e) : e.id ≠ sid := by
  obtain ⟨sid', _, hg, _⟩ := lookupByCommand_eq_some.mp h
  obtain ⟨hne, hg⟩ := get_invalidate_eq_some.mp hg
  rw [hwf sid' e hg]
  exact hne

/-- a route to an expired session resolves to nothing -/
theorem expire_removes_routes (c : Cache) (now : Nat) (tag addr cmd : Str) (e : Entry)
    (h : c.lookupByCommand now tag addr cmd = some e) : e.expired now = false := by
  obtain ⟨_, _, _, hx⟩ := lookupByCommand_eq_some.mp h
  exact hx

/-! Non-vacuity (tests): a session stored under tag "A" is found under "A" and not without a tag. -/
def e1 : Entry := { id := "s1".toList, addr := "srv".toList, key := some 3, crypto := "AES", user := "u", authenticated := true,
                    validCommands := ["60007".toList], expiration := some 5000, lease := 10, tag := [] }
def c1 : Cache := clientStore {} "A".toList "srv".toList e1
example : (clientTry c1 1000 "A".toList "srv".toList "60007".toList .authorized).2 = .resumed "s1".toList (some 3) "u" true := by decide +kernel
example : (clientTry c1 1000 [] "srv".toList "60007".toList .authorized).2 = .full := by decide +kernel
example : (clientTry c1 1000 "B".toList "srv".toList "60007".toList .authorized).2 = .full := by decide +kernel
example : (clientTry c1 1000 "A".toList "other".toList "60007".toList .authorized).2 = .full := by decide +kernel
example : (clientTry c1 1000 "A".toList "srv".toList "60008".toList .authorized).2 = .full := by decide +kernel
example : (clientTry c1 9000 "A".toList "srv".toList "60007".toList .authorized).2 = .full := by decide +kernel

/-- "invalidating … a session removes every route to it", on the RAW command map: after
    `Invalidate sid` no mapping leads to `sid` and no entry is filed under it — whether or not an
    entry was still there (a by-id lookup may have dropped an expired entry and left its mappings:
    F-C07-invalidate-after-lookup) -/
theorem invalidate_leaves_no_route (c : Cache) (sid : Str) :
    (∀ p ∈ (c.invalidate sid).cmdMap, p.2 ≠ sid) ∧ (c.invalidate sid).get sid = none :=
  ⟨invalidate_no_routes c sid, get_invalidate_self c sid⟩

/-- "… or expiring …", on the RAW command map: after the expiry sweep (`InvalidateExpired`) — run on
    ANY cache, in particular one where earlier by-id lookups already dropped expired entries, so
    that this pass itself expires nothing — every mapping that is left leads to an identifier the
    cache holds -/
theorem sweep_leaves_no_dangling_route (c : Cache) (now : Nat) :
    ∀ p ∈ (c.invalidateExpired now).cmdMap, ((c.invalidateExpired now).get p.2).isSome = true := by
  intro p hp
  -- the sweep keeps a route exactly when the swept sessions still hold its identifier
  exact (List.mem_filter.mp hp).2

/-- … and such a mapping leads to a session that has not expired -/
theorem sweep_routes_live (c : Cache) (now : Nat) (p : Str × Str) (e : Entry)
    (hp : p ∈ (c.invalidateExpired now).cmdMap) (hg : (c.invalidateExpired now).get p.2 = some e) :
    e.expired now = false := by
  simpa using (List.mem_filter.mp (get_mem hg)).2

/-- F-C07-invalidate-after-lookup as a concrete history on `invalidateLegacy`: the session expires, a
    by-id lookup drops the entry, `Invalidate` finds no entry and leaves the routes — they lead to
    whatever is filed under the identifier next. The examples after it: `invalidate` and the sweep
    on the same history. -/
theorem legacy_invalidate_leaves_route :
    ((c1.lookupNonExpired 9000 "s1".toList).1.invalidateLegacy "s1".toList).cmdMap ≠ [] := by decide +kernel
example : ((c1.lookupNonExpired 9000 "s1".toList).1.invalidate "s1".toList).cmdMap = [] := by decide +kernel
example : ((c1.lookupNonExpired 9000 "s1".toList).1.invalidateExpired 9000).cmdMap = [] := by decide +kernel

/-- a handshake that names a cached session by id (under whatever tag, server and command the
    connection is for) never adds a binding to the command map — every (key ↦ session) pair present
    afterwards was present before. So no later ordinary handshake can ride a session through a route
    such a connection left behind. -/
theorem explicit_id_plants_no_route (c : Cache) (now : Nat) (sid : Str) (answer : ServerAnswer) (ra : Bool) (b : Str × Str) :
    b ∈ (clientById c now sid answer ra).1.cmdMap → b ∈ c.cmdMap :=
  -- the command map of every cache a resumption can produce is a sub-list of the old one
  (resume_preserves (P := fun c' => b ∈ c'.cmdMap → b ∈ c.cmdMap) (now := now) id
    (fun _ _ hm hb => hm hb) (fun _ _ _ _ => id)).2.2 sid answer ra

/-- after ANY history of client operations — full handshakes in which the server chooses the session
    identifier (possibly one the cache already knows), resumption attempts by route or by explicit
    id with any server answer, invalidations, expiry sweeps, lookups — every command route leads
    only to sessions that were established under the route's own tag, with the route's own server,
    and for which the server declared the route's command valid -/
theorem routes_lead_home (ops : List ClientOp) : Inv (runOps {} ops) :=
  inv_runOps ops {} inv_empty

/-- the property's first sentence: in any reachable cache, a client that resumes a cached session for
    (tag, server, command) resumes a session that was established under that same tag, with that
    same server, and for which the server declared that command valid — and it is that session's key
    and identity the handshake returns -/
theorem resume_only_same_triple (ops : List ClientOp) (now : Nat) (tag addr cmd : Str) (ans : ServerAnswer)
    (ra : Bool) (c' : Cache) (sid : Str) (key : Option Nat) (user : String) (auth : Bool)
    (h : clientTry (runOps {} ops) now tag addr cmd ans ra = (c', .resumed sid key user auth)) :
    ∃ e, (sid, e) ∈ (runOps {} ops).sessions ∧ e.tag = tag ∧ e.addr = addr ∧ cmd ∈ e.validCommands ∧
      key = e.key ∧ user = e.user ∧ auth = e.authenticated := by
  have hinv := routes_lead_home ops
  obtain ⟨sid', e, hs, hr, _, rfl, rfl, rfl, rfl⟩ := clientTry_resumed (congrArg Prod.snd h)
  have hmem := get_mem (resumable_eq_some.mp hr).1
  obtain ⟨h1, h2, h3⟩ := hinv.2 tag addr cmd sid' e (lookup_mem hs) hmem
  exact ⟨e, hinv.1 sid' e hmem ▸ hmem, h1, h2, h3, rfl, rfl, rfl⟩

/-- F-C07-sid-collision as a concrete history on `clientStoreLegacy`: the client holds session "s" for
    (tag A, srvA); a second server, contacted under (tag B, srvB), hands out the same identifier;
    connecting to srvA under tag A the client then resumes the session of srvB — its key 99, its
    user. -/
theorem legacy_store_breaks_routes :
    let eA : Entry := { id := "s".toList, addr := [], key := some 3, crypto := "AES", user := "alice", authenticated := true,
                        validCommands := ["60007".toList], expiration := none, lease := 0, tag := [] }
    let eB : Entry := { eA with key := some 99, user := "mallory" }
    let c := clientStoreLegacy (clientStoreLegacy {} "A".toList "srvA".toList eA) "B".toList "srvB".toList eB
    (clientTry c 0 "A".toList "srvA".toList "60007".toList .authorized).2 = .resumed "s".toList (some 99) "mallory" true := by
  decide +kernel

/-- the same history on `clientStore`: the route of (A, srvA) is gone, a full handshake follows -/
example :
    let eA : Entry := { id := "s".toList, addr := [], key := some 3, crypto := "AES", user := "alice", authenticated := true,
                        validCommands := ["60007".toList], expiration := none, lease := 0, tag := [] }
    let eB : Entry := { eA with key := some 99, user := "mallory" }
    let c := clientStore (clientStore {} "A".toList "srvA".toList eA) "B".toList "srvB".toList eB
    (clientTry c 0 "A".toList "srvA".toList "60007".toList .authorized).2 = .full := by
  decide +kernel

end Cedar.C07
