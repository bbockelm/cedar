/-
  C12 — Protected frames follow the AES-GCM wire format; no nonce is ever reused.
  That the code's frames have this format in both directions (an independent implementation of the
  documented format, refcodec, opens what the code emits, and the code opens what refcodec builds) is
  checked by the gcmformat engine, not proved here.
-/
import CedarProofs.Prefix
import CedarProofs.Step
import CedarGen.Literals
import CedarModel.Codec

namespace Cedar.C12

open Cedar

/-- in an established protected direction (key `k`, base IV `iv`, handshake digests `dg`, counter
    `c`), the frame emitted for `data` is
    `hdr ‖ [iv if c = 0] ‖ seal k (iv with leading word + c) aad data`, with
    `hdr.len = |data| + 16 (+16 with the IV)`, `aad = [Hs ‖ Hr] ‖ hdr` on the first frame of the
    direction and `hdr` afterwards; the counter advances by one and never reaches the limit. -/
theorem wire_format {s s' : Stream} {k iv dg c data flag f}
    (h : SendInv s k iv dg c) (hs : s.sendFrame data flag = .ok (s', f)) :
    f = ⟨flag, data.length + tagLen + (if c = 0 then ivLen else 0),
          .ct (if c = 0 then some iv else none)
              ⟨k, iv.nonce c, ⟨if c = 0 then some dg else none, flag,
                                data.length + tagLen + (if c = 0 then ivLen else 0)⟩, data⟩⟩ ∧
    c < counterLimit ∧ SendInv s' k iv dg (c + 1) := by
  obtain ⟨hlt, _, hf, hlen, hinv⟩ := sendFrame_spec h hs
  refine ⟨?_, hlt, hinv⟩
  rw [hf, hlen]
  simp [frameAt, sealedAt]

/-- digests in the first frame's AAD: the hash of the cleartext fed before the key was installed,
    or the all-zero placeholder for a direction in which nothing was sent in the clear. -/
theorem first_aad_digests (s : Stream) (k : Nat) (iv : IV) (hs : s.dig.finalSend = none) (hr : s.dig.finalRecv = none) :
    SendInv (s.setKey k iv) k iv
      (if s.dig.sendWritten then .H s.dig.sendFed else .zero,
       if s.dig.recvWritten then .H s.dig.recvFed else .zero) 0 := by
  have := setKey_sendInv s k iv
  simpa [Dig.fs, Dig.fr, hs, hr] using this

/-- in *any* history of `Op`s on a stream — sends, buffered writes, secrets with crypto toggled,
    frame-level receives in the other direction, in any interleaving — the (key, nonce) pairs of
    the protected frames it emits are pairwise distinct. The counter may start anywhere (imported
    session state included). -/
theorem nonces_distinct (s : Stream) (ops : List Op) (hb : s.encCtr ≤ counterLimit) :
    ((s.run ops).2.filterMap nonceOf).Pairwise (· ≠ ·) := by
  obtain ⟨n, h⟩ := run_summary ops s hb
  have hle := h.bound
  rw [h.nonces, List.pairwise_map]
  refine List.Pairwise.imp_of_mem ?_ (List.pairwise_lt_range (n := n))
  intro a b _ hb' hab heq
  have hb'' : b < n := List.mem_range.mp hb'
  have := nonce_inj (iv := s.encIV) (a := s.encCtr + a) (b := s.encCtr + b) (by omega) (by omega) (Prod.mk.inj heq).2
  omega

/-- the nonces used are exactly `iv+c, iv+c+1, …` — one counter value per protected frame, the key
    and the base IV never change along a history (only `SetSymmetricKey` draws an IV). The key id
    `0` stands for a stream without key, which seals nothing: `n = 0`. -/
theorem nonce_sequence (s : Stream) (ops : List Op) (hb : s.encCtr ≤ counterLimit) :
    ∃ n, (s.run ops).2.filterMap nonceOf =
           (List.range n).map (fun i => (s.key.getD 0, s.encIV.nonce (s.encCtr + i))) ∧
         (s.run ops).1.encIV = s.encIV ∧ (s.run ops).1.key = s.key ∧
         (s.run ops).1.encCtr = s.encCtr + n ∧ s.encCtr + n ≤ counterLimit := by
  obtain ⟨n, h⟩ := run_summary ops s hb
  exact ⟨n, h.nonces, h.iv, h.key, h.ctr, h.bound⟩

/-- write failure: a protected frame is sealed — and its counter value consumed — before its bytes
    are handed to the connection; when that write then fails
    (deadline mid-frame, short write) the stream is in the very state `s'` it is in after a
    successful send, although all, part or none of `f` reached the wire. Whatever the application
    does next on the stream (any history `ops`, through any sending API), no frame it emits carries
    the (key, nonce) pair the lost frame was sealed under. -/
theorem lost_frame_nonce_not_reused (s s' : Stream) (d : Bytes) (fl : Nat) (f : WireFrame) (ops : List Op)
    (hb : s.encCtr ≤ counterLimit) (hs : s.sendFrame d fl = .ok (s', f)) :
    ∀ p ∈ (s'.run ops).2.filterMap nonceOf, nonceOf f ≠ some p := by
  have h := nonces_distinct s (.send d fl :: ops) hb
  have hrun : (s.run (.send d fl :: ops)).2 = f :: (s'.run ops).2 := by
    rw [Stream.run_cons, Stream.step, hs]; rfl
  rw [hrun] at h
  intro p hp hf
  rw [List.filterMap_cons, hf] at h
  exact (List.pairwise_cons.mp h).1 p hp rfl

theorem refuses_wrap (s : Stream) (k : Nat) (data : Bytes) (flag : Nat)
    (hk : s.key = some k) (he : s.encrypted = true) (hc : s.encCtr = counterLimit) :
    ∃ e, s.sendFrame data flag = .error e :=
  except_error_of_not_ok _ fun _ h => ((sendFrame_keyed_ok hk he).mp h).2.1 hc

/-- `SetSymmetricKey` is one RNG draw (its `freshIV` parameter) and resets the counter
    (`setKey_resets`); the IV travels with the frame whose counter is 0 and with no other. -/
theorem iv_once {s s' : Stream} {k iv dg c data flag f}
    (h : SendInv s k iv dg c) (hs : s.sendFrame data flag = .ok (s', f)) :
    (c = 0 → ∃ sl, f.body = .ct (some iv) sl) ∧ (c ≠ 0 → ∃ sl, f.body = .ct none sl) := by
  obtain ⟨rfl, _⟩ := wire_format h hs
  exact ⟨fun hc => ⟨_, congrArg (Body.ct · _) (if_pos hc)⟩, fun hc => ⟨_, congrArg (Body.ct · _) (if_neg hc)⟩⟩

theorem setKey_resets (s : Stream) (k : Nat) (iv : IV) :
    (s.setKey k iv).encIV = iv ∧ (s.setKey k iv).encCtr = 0 ∧ (s.setKey k iv).decCtr = 0 ∧
    (s.setKey k iv).key = some k ∧ (s.setKey k iv).encrypted = true := ⟨rfl, rfl, rfl, rfl, rfl⟩

/-- tie T: the sizes the format theorems are stated with — the 16-byte GCM tag, the 16-byte IV sent
    with a direction's first frame (frame counter 0), and the 32 bytes of room the typed layer
    leaves for both on an encrypted stream — are the integer literals of
    `stream.calculateEncryptedSize` and `message.maxFramePayload`, regenerated from the source on
    every run (`tools/gen/literals.go`). -/
theorem size_literals_are_the_code :
    CedarGen.Literals.calculateEncryptedSize = [tagLen, 0, ivLen] ∧
    CedarGen.Literals.maxFramePayload = [gcmRoom] ∧ gcmRoom = tagLen + ivLen := by
  decide +kernel

/-! Non-vacuity (tests): a history with secrets toggled and a nonce word that wraps while the
    counter does not. -/
def demo : Stream := ({} : Stream).setKey 3 ⟨0xffffffff, [1,2,3,4,5,6,7,8,9,10,11,12]⟩
example : ((demo.run [.send [1] 1, .crypto false, .secret [2,3], .send [4] 1, .crypto true, .send [] 1]).2.filterMap nonceOf).map (·.2.w0)
    = [0xffffffff, 0, 1] := by decide +kernel

end Cedar.C12
