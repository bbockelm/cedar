/-
  C15 — Exported crypto state resumes the session exactly; export only when clean.
-/
import CedarProofs.Handoff
import CedarProofs.Blob

namespace Cedar.C15

open Cedar CedarGen

/-- export succeeds exactly on an encrypted, keyed stream that has exchanged a protected frame in
    both directions and holds no partially sent or partially consumed message; otherwise it is
    refused. -/
theorem export_refused_iff (sha : Bytes → Bytes) (s : Stream) :
    (∃ f, s.exportFields sha = .ok f) ↔ Clean s := by
  refine ⟨fun ⟨_, h⟩ => (exportFields_ok.mp h).1, fun h => ?_⟩
  obtain ⟨k, hk⟩ := Option.isSome_iff_exists.mp h.2.1
  exact ⟨_, exportFields_ok.mpr ⟨h, k, hk, rfl⟩⟩

/-- what an accepted export contains: the live key, both base IVs, both counters, the peer address -/
theorem export_contents (sha : Bytes → Bytes) (s : Stream) (f : BlobFields) (h : s.exportFields sha = .ok f) :
    s.key = some f.key ∧ f.encIV = s.encIV ∧ f.decIV = s.decIV ∧ f.encCtr = s.encCtr ∧
    f.decCtr = s.decCtr ∧ f.peer = s.peerAddr := by
  obtain ⟨_, k, hk, rfl⟩ := exportFields_ok.mp h
  exact ⟨hk, rfl, rfl, rfl, rfl, rfl⟩

/-- field level: importing what was exported restores key, IVs, counters, first-frame flags and
    encryption/authentication status verbatim, with empty buffers. -/
theorem import_export (sha : Bytes → Bytes) (s : Stream) (f : BlobFields) (h : s.exportFields sha = .ok f) :
    let t := importFields f
    t.key = s.key ∧ t.encrypted = s.encrypted ∧ t.authenticated = s.authenticated ∧
    t.encIV = s.encIV ∧ t.decIV = s.decIV ∧ t.encCtr = s.encCtr ∧ t.decCtr = s.decCtr ∧
    t.finSendAAD = s.finSendAAD ∧ t.finRecvAAD = s.finRecvAAD ∧
    t.sendBuf = s.sendBuf ∧ t.recvBuf = s.recvBuf ∧ t.sendEOM = s.sendEOM ∧ t.inMessage = s.inMessage ∧
    t.bytesRead = s.bytesRead ∧ t.peerAddr = s.peerAddr := by
  intro t
  rw [show t = _ from importFields_exported h]
  exact ⟨rfl, rfl, rfl, rfl, rfl, rfl, rfl, rfl, rfl, rfl, rfl, rfl, rfl, rfl, rfl⟩

/-- the session's identity survives the hand-off. Whatever connection the stream is rebuilt around
    (`connAddr`: the remote address `NewStream` records for it — typically a local unix socket, not
    the peer), the imported stream reports the exporter's authentication status, and the exporter's
    peer address whenever the exporter had one; only a session that never knew its peer takes the
    new connection's address. Everything else is as in `import_export`. -/
theorem import_identity (sha : Bytes → Bytes) (s : Stream) (f : BlobFields) (connAddr : Bytes)
    (h : s.exportFields sha = .ok f) :
    let t := importFieldsAround connAddr f
    t.authenticated = s.authenticated ∧
    (s.peerAddr ≠ [] → t.peerAddr = s.peerAddr) ∧ (s.peerAddr = [] → t.peerAddr = connAddr) ∧
    t.key = s.key ∧ t.encrypted = s.encrypted ∧ t.encIV = s.encIV ∧ t.decIV = s.decIV ∧
    t.encCtr = s.encCtr ∧ t.decCtr = s.decCtr := by
  intro t
  rw [show t = _ from importFieldsAround_eq connAddr f, importFields_exported h, (export_contents sha s f h).2.2.2.2.2]
  exact ⟨rfl, fun hne => if_neg hne, fun he => if_pos he, rfl, rfl, rfl, rfl, rfl, rfl⟩

/-- with the connection in view the imported stream IS the one `import_export`, `handoff_sim`,
    `handoff_transparent` and `handoff_chain` speak about, whenever the exporter knew its peer -/
theorem import_around_eq (sha : Bytes → Bytes) (s : Stream) (f : BlobFields) (connAddr : Bytes)
    (h : s.exportFields sha = .ok f) (hne : s.peerAddr ≠ []) :
    importFieldsAround connAddr f = importFields f := by
  rw [importFieldsAround_eq, if_neg (by rwa [(export_contents sha s f h).2.2.2.2.2])]
  rfl

/-! A blob shorter than the fixed prefix, or whose magic or version differ, is rejected (every strict
    truncation of a well-formed blob: `import_rejects_truncated`). -/

theorem import_rejects_short (b : Bytes) (h : b.length < csFixedLen) : ∃ e, decodeBlob b = .error e :=
  except_error_of_not_ok _ fun _ hf => (decodeBlob_header hf).1 h

theorem import_rejects_magic (b : Bytes) (h : b.take 4 ≠ csMagic) : ∃ e, decodeBlob b = .error e :=
  except_error_of_not_ok _ fun _ hf => h (decodeBlob_header hf).2.1

theorem import_rejects_version (b : Bytes) (h : beVal ((b.drop 4).take 2) ≠ csVersion) :
    ∃ e, decodeBlob b = .error e :=
  except_error_of_not_ok _ fun _ hf => h (decodeBlob_header hf).2.2

/-! Non-vacuity (tests): a concrete exchange and export. -/
def ivS : IV := ⟨7, [1,2,3,4,5,6,7,8,9,10,11,12]⟩
def ivP : IV := ⟨9, [12,11,10,9,8,7,6,5,4,3,2,1]⟩
def est : Stream :=
  let a := (({} : Stream).setKey 5 ivS)
  let b := (({} : Stream).setKey 5 ivP)
  match a.sendFrame [1] 1, b.sendFrame [2] 1 with
  | .ok (a1, _), .ok (_, g) =>
    -- the peer's first frame arrives
    match a1.recvFrameWithEnd g with
    | .ok (a2, _, _) => a2
    | .error _ => a1
  | _, _ => a
example : Clean est := by unfold Clean; decide +kernel
example : (est.exportFields (fun _ => [])).isOk = true := by decide +kernel
example : ∃ e, (({} : Stream).setKey 5 ivS).exportFields (fun _ => []) = .error e := ⟨_, rfl⟩

theorem decode_encode (f : BlobFields) (wf : WfBlob f) : decodeBlob (encodeBlob f) = .ok f := by
  have := decodeBlob_take f wf (encodeBlob f).length
  rwa [List.take_length, if_neg (Nat.lt_irrefl _)] at this

/-- EVERY strict prefix of a well-formed blob is rejected — a truncated hand-off is never mistaken
    for a complete one. -/
theorem import_rejects_truncated (f : BlobFields) (wf : WfBlob f) (n : Nat) (hn : n < (encodeBlob f).length) :
    ∃ e, importBlob ((encodeBlob f).take n) = .error e := by
  unfold importBlob
  rw [decodeBlob_take f wf, if_pos hn]
  exact ⟨_, rfl⟩

/-- parsing the bytes `ExportCryptoState` writes gives back exactly the fields that were written —
    for every key, IV pair, counter pair, flag byte, digests and peer address in range. -/
theorem blob_roundtrip (f : BlobFields) (wf : WfBlob f) : importBlob (encodeBlob f) = .ok (importFields f) := by
  unfold importBlob; rw [decode_encode f wf]

/-- the stream built from an accepted export agrees with the exporting stream on every field except
    the digest bookkeeping (carried as opaque bytes, unused once both first frames have passed) and
    two scratch fields. -/
theorem handoff_sim (sha : Bytes → Bytes) (s : Stream) (f : BlobFields) (h : s.exportFields sha = .ok f) :
    Sim s (importFields f) := by
  obtain ⟨⟨_, _, h1, h2, _⟩, _⟩ := exportFields_ok.mp h
  exact ⟨⟨_, _, _, importFields_exported h⟩, h1, h2⟩

/-- after the hand-off the receiving process continues the session exactly as the exporting process
    would have. For every sequence of `Op`s (sends, buffered writes, message ends, secrets, crypto
    toggles, frame-level receives of arbitrary — also adversarial — frames) the imported stream puts
    the same frames on the wire as the original would, and for every wire its
    `ReceiveCompleteMessage` loop delivers the same messages. `C12.nonce_sequence` (no nonce reuse
    from the restored counter) and `C02.recv_prefix_midstream` (only an authentic prefix is
    delivered) are stated for any counter values, so they hold of the imported stream. -/
theorem handoff_transparent (sha : Bytes → Bytes) (s : Stream) (f : BlobFields) (h : s.exportFields sha = .ok f) :
    (∀ ops : List Op, ((importFields f).run ops).2 = (s.run ops).2) ∧
    (∀ (n : Nat) (w : List WireFrame), Stream.deliverFuel n (importFields f) w = Stream.deliverFuel n s w) := by
  have hs := handoff_sim sha s f h
  exact ⟨fun ops => (run_sim ops hs).1.symm, fun n w => (deliverFuel_sim n w hs).symm⟩

/-- chained hand-offs: `run_sim` along the first process's operations, then along the second's, so a
    session handed from process to process keeps emitting what the original would -/
theorem handoff_chain (sha : Bytes → Bytes) (s : Stream) (f g : BlobFields) (ops : List Op)
    (h1 : s.exportFields sha = .ok f)
    (h2 : ((importFields f).run ops).1.exportFields sha = .ok g) (ops' : List Op) :
    ((importFields g).run ops').2 = ((s.run ops).1.run ops').2 := by
  have a := run_sim ops (handoff_sim sha s f h1)
  have b := handoff_sim sha _ g h2
  have c := run_sim ops' a.2
  have d := run_sim ops' b
  rw [c.1, d.1]

/-- non-vacuity: a concrete established stream exports, and the imported stream's next frame equals the
    original's -/
private def demoS : Stream :=
  { key := some 5, encrypted := true, encIV := ⟨7, List.replicate 12 1⟩, decIV := ⟨9, List.replicate 12 2⟩,
    encCtr := 3, decCtr := 4, finSendAAD := true, finRecvAAD := true,
    dig := { finalSend := some .zero, finalRecv := some .zero } }

example : (demoS.exportFields (fun _ => [])).isOk = true := by decide +kernel
example : ∀ f, demoS.exportFields (fun _ => []) = .ok f → ((importFields f).run [.send [1, 2] 1]).2 = (demoS.run [.send [1, 2] 1]).2 :=
  fun f h => (handoff_transparent _ _ f h).1 _

end Cedar.C15