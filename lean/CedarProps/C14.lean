/-
  C14 — Typed values use HTCondor's byte layout and survive frame boundaries.
-/
import CedarProofs.CodecDouble
import CedarProofs.CodecFits

namespace Cedar.C14

open Cedar

/-- **layout**: for every sequence of well-formed values (`Val.wf`: `int64`s, bytes, NUL-free strings
    below 2 GiB that do not start with `BinNullChar`) and both string modes, the payload bytes the
    encoder puts on the wire — whatever its flush policy does with frame boundaries — are exactly
    the reference encodings in order: 8-byte big-endian two's complement, single bytes,
    NUL-terminated strings with an 8-byte length prefix (terminator included) on encrypted streams. -/
theorem layout (enc : Bool) (vs : List Val) (h : ∀ v ∈ vs, v.wf) :
    wireBytes (putAll enc [] vs) = Spec.encAll enc vs := by
  simpa using wireBytes_putAll enc vs [] h

/-- **int_roundtrip**: every 64-bit integer survives encode/decode exactly. -/
theorem int_roundtrip (v : Int) (h1 : -(2^63 : Int) ≤ v) (h2 : v < (2^63 : Int)) :
    ofU64 (beVal (be64 (toU64 v))) = v :=
  ofU64_beVal_be64_toU64 v h1 h2

/-- re-cutting payload bytes into frames: `ks` are the lengths of the partial frames, the
    remainder travels in the end-of-message frame (empty frames and cuts inside a value included) -/
def cutAt : Bytes → List Nat → List OutFrame
  | B, [] => [(B, true)]
  | B, k :: ks => (B.take k, false) :: cutAt (B.drop k) ks

theorem pending_cutAt : ∀ (ks : List Nat) (B : Bytes), pendingSrc (cutAt B ks) = some B
  | [], _ => rfl
  | _ :: ks, _ => by simp [cutAt, pendingSrc, pending_cutAt ks]

/-- **cut_independence**: for every sequence of well-formed typed values, both string
    modes, and EVERY way of cutting the encoded bytes into frames, decoding returns exactly the
    values that were encoded and consumes exactly their bytes. -/
theorem cut_independence (enc : Bool) (vs : List Val) (h : ∀ v ∈ vs, v.wf) (ks : List Nat) :
    ∃ d', Dec.getAll enc ⟨[], false, cutAt (wireBytes (putAll enc [] vs)) ks⟩ vs = .ok (vs, d') ∧
          d'.pending = some [] := by
  apply getAll_spec enc vs _ [] h
  simp [Dec.pending, pending_cutAt, layout enc vs h]

/-- the decoder's result depends only on the payload byte sequence: two decoders with the same
    pending bytes, however framed or partially buffered, return the same values. -/
theorem same_bytes_same_values (enc : Bool) (vs : List Val) (h : ∀ v ∈ vs, v.wf) (d e : Dec) (rest : Bytes)
    (hd : d.pending = some (Spec.encAll enc vs ++ rest)) (he : e.pending = some (Spec.encAll enc vs ++ rest)) :
    ∃ d' e', Dec.getAll enc d vs = .ok (vs, d') ∧ Dec.getAll enc e vs = .ok (vs, e') ∧
             d'.pending = e'.pending := by
  obtain ⟨d', h1, h2⟩ := getAll_spec enc vs d rest h hd
  obtain ⟨e', h3, h4⟩ := getAll_spec enc vs e rest h he
  exact ⟨d', e', h1, h3, by rw [h2, h4]⟩

/-- **double_precision_partial**. A finite non-zero double is `F · 2^(exp−53)` with a 53-bit
    mantissa `2^52 ≤ |F| < 2^53`. The wire carries `fracInt` = the fraction scaled by
    `FracConst = 2^31 − 1` and truncated; whatever float rounding does before the truncation,
    `fracInt` is within 1 of the exact product `F·FracConst / 2^53`. Then the decoded fraction
    `fracInt / FracConst` is within relative error `2^-29` of the original — the format's 31-bit
    precision. (Partial: Go's `math.Frexp`, `math.Ldexp` and the float multiply/divide are
    represented by this integer inequality; gradual underflow of subnormal results is not
    modelled. The codec engine compares real doubles, random bit patterns and extremes.
    `double_precision` has the same bound on magnitudes, for the model's `encodeDbl`.) -/
theorem double_precision_partial (F fracInt : Int) (hF : 4503599627370496 ≤ F.natAbs)          -- 2^52
    (hnear : (fracInt * 9007199254740992 - F * (fracConst : Int)).natAbs ≤ 9007199254740992) :   -- 2^53
    (fracInt * 9007199254740992 - F * (fracConst : Int)).natAbs * 536870912 ≤ fracConst * F.natAbs := by  -- 2^29
  have hc : fracConst = 2147483647 := rfl
  rw [hc] at hnear ⊢
  generalize (fracInt * 9007199254740992 - F * ((2147483647 : Nat) : Int)).natAbs = a at hnear ⊢
  generalize F.natAbs = b at hF ⊢
  omega

/-- **strbytes_layout**: `PutStringBytes` has `PutString`'s wire bytes, in both string modes, from
    any buffer, for every NUL-free string — the ≥ one-frame branch (flush, length prefix, the bytes,
    then the terminator by a second `PutBytes`) included, terminator and all. -/
theorem strbytes_layout (enc : Bool) (buf s : Bytes) (hnz : ∀ b ∈ s, b ≠ 0) (hlen : s.length + 1 < 2^64) :
    wireBytes (putStringBytes enc buf s) = buf ++ Spec.enc enc (.str s) := by
  rw [wireBytes_putStringBytes_eq_putString, wireBytes_putString enc buf s hnz hlen]

/-- **double_layout**: a double travels as exactly two 8-byte big-endian integers — the fraction
    scaled by `FracConst = 2^31 − 1` and truncated, then the binary exponent — in both string
    modes and whatever the flush policy does with frame boundaries (sixteen bytes in all). -/
theorem double_layout (enc : Bool) (m e : Int)
    (hfi : -(2^63 : Int) ≤ (encodeDbl m e).1 ∧ (encodeDbl m e).1 < (2^63 : Int))
    (he : -(2^63 : Int) ≤ e ∧ e < (2^63 : Int)) :
    wireBytes (putAll enc [] (dblVals m e)) = be64 (toU64 (encodeDbl m e).1) ++ be64 (toU64 e) ∧
    fracConst = 2147483647 := by
  refine ⟨?_, rfl⟩
  rw [layout enc (dblVals m e) (List.forall_mem_cons.mpr ⟨hfi, List.forall_mem_singleton.mpr he⟩)]
  rfl

/-- **double_frac_range**: for every finite double (`|m| < 2^53`) the scaled fraction fits the
    int32 the sender converts it to (`|fracInt| < 2^31 − 1`), has the sign of the value, and the
    exponent travels unchanged. -/
theorem double_frac_range (m e : Int) (hm : m.natAbs < twoPow53) :
    (encodeDbl m e).1.natAbs < fracConst ∧ ((encodeDbl m e).1 < 0 → m < 0) ∧ (encodeDbl m e).2 = e :=
  ⟨by rw [encodeDbl_abs]; exact fracOfNat_lt _ hm, encodeDbl_sign m e, rfl⟩

/-- **double_precision** (about the model's `encodeDbl` / `decodeDbl`): for every finite non-zero
    double `m · 2^(e−53)`, `2^52 ≤ |m|`, the receiver reconstructs `fi / FracConst · 2^ex` with
    `(fi, ex) = encodeDbl m e`: the exponent is `e`, the denominator is `FracConst = 2^31 − 1`, and
    the fraction is within relative error `2^-29` of `m / 2^53` — on magnitudes and without
    division: `| |fi|·2^53 − |m|·FracConst | · 2^29 ≤ FracConst · |m|` (both truncated differences).
    The same bound holds for EVERY magnitude `q` that is `NearN` the exact quotient, which is
    what a Go run puts on the wire (float rounding before the truncation: the trusted part,
    measured with exact integers by the codec engine on every double sent). -/
theorem double_precision (m e : Int) (hm : twoPow53 / 2 ≤ m.natAbs) :
    (decodeDbl (encodeDbl m e).1 (encodeDbl m e).2).2 = e ∧
    (decodeDbl (encodeDbl m e).1 (encodeDbl m e).2).1.2 = fracConst ∧
    (((encodeDbl m e).1.natAbs * twoPow53 - m.natAbs * fracConst) * 536870912 ≤ fracConst * m.natAbs ∧
     (m.natAbs * fracConst - (encodeDbl m e).1.natAbs * twoPow53) * 536870912 ≤ fracConst * m.natAbs) ∧
    ∀ q, NearN m.natAbs q →
      (q * twoPow53 - m.natAbs * fracConst) * 536870912 ≤ fracConst * m.natAbs ∧
      (m.natAbs * fracConst - q * twoPow53) * 536870912 ≤ fracConst * m.natAbs := by
  refine ⟨rfl, rfl, ?_, fun q hq => precisionN _ q hm hq⟩
  rw [encodeDbl_abs]
  exact precisionN _ _ hm (fracOfNat_near _)

/-- non-vacuity: 1.0 = 2^52 · 2^(1−53) travels as (⌊FracConst/2⌋, 1); −0.75 keeps its sign -/
example : encodeDbl 4503599627370496 1 = (1073741823, 1) ∧ encodeDbl (-6755399441055744) 0 = (-1610612735, 0) := by decide +kernel

/-- **int_char_frames_fit**: the integer and character encoders never let the buffer or a flushed
    frame exceed the largest payload a frame may carry in the current mode (for strings, byte runs and
    value lists: `C01.typed_values_fit`). -/
theorem int_char_frames_fit (enc : Bool) (buf : Bytes) (hb : buf.length ≤ maxFramePayload enc) (v : Int) (c : UInt8) :
    Fits enc (putInt buf v) ∧ Fits enc (putChar buf c) :=
  ⟨fits_putInt enc buf v hb, fits_putChar enc buf c hb⟩

/-! Non-vacuity (tests): concrete values in encrypted mode, a cut in the middle of a value, an empty frame. -/
def demoVals : List Val := [.int (-2), .str [104, 105], .char 7, .int 9223372036854775807]
example : ∀ v ∈ demoVals, v.wf := by
  intro v hv
  simp only [demoVals, List.mem_cons, List.mem_nil_iff, or_false] at hv
  rcases hv with rfl | rfl | rfl | rfl <;> simp [Val.wf, binNullChar] <;> decide
example : (Dec.getAll true ⟨[], false, cutAt (wireBytes (putAll true [] demoVals)) [3, 0, 9]⟩ demoVals).isOk = true := by decide +kernel

end Cedar.C14
