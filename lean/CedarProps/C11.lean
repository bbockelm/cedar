/-
  C11 — Token authentication proves possession of a valid token, in both directions.

  `serverRun P env now rb m1 m3` is `performTokenAuthenticationServer` as a function
  of everything it depends on: key store and settings `P`, Go's decoders and the reading of proof
  bytes as terms `env`, the clock `now`, the nonce it draws `rb`, and the frames of the client's two
  messages. `clientRun env token usable ra m2` is the client side. `Rd.m1`, `Rd.m2`, `Rd.m3` read a
  message as its sequence of fields with the model's decoder (`CedarModel.Codec`, property C14).
  All theorems hold for every `env`, every frame list and every key store.
-/
import CedarProofs.TokenSpec
import CedarProofs.TokenLemmas

namespace Cedar.C11

open Cedar Cedar.Token

/-- Clauses 1 and 2, every check listed. The server accepts, recording
    identity `u`, exactly when: message 1 is `OK, id, token, RA` (RA within the limit, nothing
    trailing); the token is valid now (`valid_token_means`) under a key the server holds
    and carries a non-empty string subject `sub`; message 3 is `OK, id, RB, proof` with
    nothing trailing, its id is `sub`, its RB is the nonce the server drew, and its proof reads as
    the HMAC under the key derived from *the server's own recomputation of the token signature*
    over `sub ‖ 0 ‖ RB`; and `u` is the user part of `sub`. The id announced in message 1
    (`w1.id`) occurs nowhere on the right-hand side. -/
theorem server_accept_iff (P : SrvCfg) (env : Env) (now : Int) (rb : Bytes) (m1 m3 : List OutFrame) (u : Option Bytes) :
    serverRun P env now rb m1 m3 = .accept u ↔
    ∃ w1 d1 key c sub w3 d3,
      Rd.m1 { src := m1 } = .ok (w1, d1) ∧ w1.status = authOK ∧ w1.raLen ≤ (keyLen : Int) ∧
      ValidToken P env now w1.token key c ∧ c.sub = .str sub ∧ sub ≠ [] ∧
      Rd.m3 { d1 with src := d1.src ++ m3 } = .ok (w3, d3) ∧ w3.status = authOK ∧ w3.id = sub ∧
      w3.rbLen ≤ (keyLen : Int) ∧ w3.rb = rb ∧
      env.macOf w3.mac = .hmac (.derive (.sign key w1.token) w1.token) (macMsg3 sub rb) ∧
      u = some (userPart sub) := by
  simp only [serverRun_accept_iff, srvPhase2_accept_iff]
  rw [srvPhase1_noErr_iff]
  simp only [ok_iff]
  -- the same facts on both sides, on the left in the order of the stages; `sub ≠ []` decides the `isEmpty` test
  constructor
  · rintro ⟨w1, d1, hr1, hst, hra, key, c, sub, hv, hsub, hne, w3, d3, h⟩
    exact ⟨w1, d1, key, c, sub, w3, d3, hr1, hst, hra, hv, hsub, hne, by rwa [if_neg (mt List.isEmpty_iff.mp hne)] at h⟩
  · rintro ⟨w1, d1, key, c, sub, w3, d3, hr1, hst, hra, hv, hsub, hne, h⟩
    exact ⟨w1, d1, hr1, hst, hra, key, c, sub, hv, hsub, hne, w3, d3, by rwa [if_neg (mt List.isEmpty_iff.mp hne)]⟩

/-- Clause 2. Whatever the client announces, an accepting server records the user part of the
    `sub` claim of the token of message 1, and that token is valid; a token without a non-empty
    string subject is never accepted. -/
theorem identity_from_token (P : SrvCfg) (env : Env) (now : Int) (rb : Bytes) (m1 m3 : List OutFrame) (u : Option Bytes)
    (h : serverRun P env now rb m1 m3 = .accept u) :
    ∃ w1 d1 key c sub, Rd.m1 { src := m1 } = .ok (w1, d1) ∧ ValidToken P env now w1.token key c ∧
      c.sub = .str sub ∧ sub ≠ [] ∧ u = some (userPart sub) := by
  obtain ⟨w1, d1, key, c, sub, _, _, hr1, _, _, hv, hsub, hne, _, _, _, _, _, _, hu⟩ := (server_accept_iff ..).mp h
  exact ⟨w1, d1, key, c, sub, hr1, hv, hsub, hne, hu⟩

/-- What "valid" unfolds to: two segments, a header Go can decode whose `kid` is a string or absent
    (absent or empty = POOL) and names a key `loadSigningKey` yields, a payload Go can decode, and
    the three time claims: each may be absent, none may be anything but a number, and the maximum
    age counts only when one is in force. -/
theorem valid_token_means (P : SrvCfg) (env : Env) (now : Int) (tok key : Bytes) (c : Claims) :
    ValidToken P env now tok key c ↔
    ∃ h p kidv, splitDots tok = [h, p] ∧ env.hdr h = .ok kidv ∧ kidv ≠ .nonStr ∧
      loadSigningKey P.ks (keyIdOf kidv) = some key ∧ env.claims p = .ok c ∧
      (match c.exp with | .bad => False | .num e => now < e | .absent => True) ∧
      (match c.iat with
        | .bad => False
        | .num i => ¬ (maxAgeOf P.cfgMaxAge P.envMaxAge > 0 ∧ i < now - maxAgeOf P.cfgMaxAge P.envMaxAge)
        | .absent => True) ∧
      (match c.nbf with | .bad => False | .num n => n ≤ now | .absent => True) :=
  Iff.rfl

/-- Clause 1, as a Dolev–Yao corollary. `knows` and `seen` are arbitrary predicates, read as "the
    peer knows this signature" and "the peer has seen this proof"; `hpeer` says that whatever bytes
    the peer sends read as a proof it `CanSend` from those. If the server accepts, then `knows`
    holds of the signature of the accepted token under the server's key, or `seen` holds of the
    proof over exactly this subject and this `rb`. Who made a proof that was seen is not part of
    the statement. -/
theorem possession_server (P : SrvCfg) (env : Env) (now : Int) (rb : Bytes) (m1 m3 : List OutFrame) (u : Option Bytes)
    (knows : Sig → Prop) (seen : Mac → Prop) (hpeer : ∀ b, CanSend knows seen (env.macOf b))
    (h : serverRun P env now rb m1 m3 = .accept u) :
    ∃ w1 d1 key c sub, Rd.m1 { src := m1 } = .ok (w1, d1) ∧ ValidToken P env now w1.token key c ∧ c.sub = .str sub ∧
      (knows (.sign key w1.token) ∨ seen (.hmac (.derive (.sign key w1.token) w1.token) (macMsg3 sub rb))) := by
  obtain ⟨w1, d1, key, c, sub, w3, _, hr1, _, _, hv, hsub, _, _, _, _, _, _, hmac, _⟩ := (server_accept_iff ..).mp h
  exact ⟨w1, d1, key, c, sub, hr1, hv, hsub, canSend_derive (hmac ▸ hpeer w3.mac)⟩

/-- The deferred-failure mechanism. Once an error is stored — message 1
    refused, token refused — no message 3 whatsoever makes the server accept, although the key it
    then compares against is the empty one and no nonce was drawn. -/
theorem refused_stays_refused (env : Env) (s : AuthData) (m3 : List OutFrame) (h : s.err ≠ none) (u : Option Bytes) :
    srvPhase2 env s m3 ≠ .accept u :=
  fun hacc => h ((srvPhase2_accept_iff env s m3 u).mp hacc).1

/-- The server puts its own proof (status OK) into message
    2 only after message 1 and the token passed every check; otherwise message 2 is the empty
    error form and carries no MAC. -/
theorem server_proof_only_for_valid_token (P : SrvCfg) (env : Env) (now : Int) (rb : Bytes) (m1 : List OutFrame)
    (s : AuthData) (m2 : M2) (h : srvPhase1 P env now rb m1 = .ok (s, m2)) :
    (s.err = none ∧ ∃ w1 d1 key c sub, Rd.m1 { src := m1 } = .ok (w1, d1) ∧ ValidToken P env now w1.token key c ∧
        c.sub = .str sub ∧ m2.status = authOK ∧
        m2.mac = .hmac (.derive (.sign key w1.token) w1.token) (macMsg2 sub m2.serverID w1.ra rb)) ∨
    (s.err ≠ none ∧ m2 = { status := authError }) := by
  cases he : s.err with
  | none =>
    obtain ⟨w1, d1, hr1, _, _, key, c, sub, hv, hsub, _, hq⟩ :=
      (ok_iff ..).mp ((srvPhase1_noErr_iff P env now rb m1 (· = (s, m2))).mp ⟨_, h, he, rfl⟩)
    cases hq
    exact .inl ⟨rfl, w1, d1, key, c, sub, hr1, hv, hsub, rfl, rfl⟩
  | some r =>
    obtain ⟨_, -, s2, -, hr⟩ := (srvPhase1_ok_iff P env now rb m1 (· = (s, m2))).mp ⟨_, h, rfl⟩
    have he2 : s2.err ≠ none := by rw [← srvSend2_err rb s2, hr, he]; nofun
    rw [srvSend2_of_err he2] at hr
    exact .inr ⟨nofun, (Prod.mk.inj hr).2.symm⟩

/-- Clause 3, every check listed. The client accepts exactly when it
    could load a token (three segments, decodable signature and payload, non-empty string
    subject), message 2 is `OK, id, server id, RA, RB, proof` whose id is the client's subject and
    whose RA is the nonce the client drew (both nonces within the limit), and the proof reads as
    the HMAC under the key derived from *the client's own token signature* over
    `sub ‖ ' ' ‖ server id ‖ 0 ‖ RA ‖ RB`. (The client does not look at bytes after the proof.) -/
theorem client_accept_iff (env : Env) (tokenStr : Bytes) (usable : Bool) (ra : Bytes) (m2 : List OutFrame) (u : Option Bytes) :
    clientRun env tokenStr usable ra m2 = .accept u ↔
    u = none ∧ ∃ tok sig sub w2 d2, ClientToken env tokenStr usable tok sig sub ∧
      Rd.m2 { src := m2 } = .ok (w2, d2) ∧ w2.status = authOK ∧ w2.id = sub ∧ w2.raLen ≤ (keyLen : Int) ∧ w2.ra = ra ∧
      w2.rbLen ≤ (keyLen : Int) ∧ env.macOf w2.mac = .hmac (.derive sig tok) (macMsg2 sub w2.sid ra w2.rb) := by
  -- `and_left_comm`, `exists_and_left`: `u = none` leaves the binder of the set-up's outcome, which then has
  -- the shape `cliPhase0_noErr_iff` rewrites
  simp only [clientRun_accept_iff, cliPhase2_accept_iff, and_left_comm (b := u = none), exists_and_left]
  rw [cliPhase0_noErr_iff]
  simp only [List.nil_append, ok_iff]

/-- Clause 3, as a Dolev–Yao corollary (`knows`, `seen`, `hpeer` as in `possession_server`). If the
    client accepts, then `knows` holds of the very signature the client holds, or `seen` holds of a
    proof over this client's `ra`. -/
theorem possession_client (env : Env) (tokenStr : Bytes) (usable : Bool) (ra : Bytes) (m2 : List OutFrame) (u : Option Bytes)
    (knows : Sig → Prop) (seen : Mac → Prop) (hpeer : ∀ b, CanSend knows seen (env.macOf b))
    (h : clientRun env tokenStr usable ra m2 = .accept u) :
    ∃ tok sig sub sid rb, ClientToken env tokenStr usable tok sig sub ∧
      (knows sig ∨ seen (.hmac (.derive sig tok) (macMsg2 sub sid ra rb))) := by
  obtain ⟨_, tok, sig, sub, w2, _, hct, _, _, _, _, _, _, hmac⟩ := (client_accept_iff ..).mp h
  exact ⟨tok, sig, sub, w2.sid, w2.rb, hct, canSend_derive (hmac ▸ hpeer w2.mac)⟩

/-- The deferred-failure mechanism, client side. A client that could
    not load a token, or that stored any other error, never reports success, whatever message 2 is. -/
theorem client_refused_stays_refused (env : Env) (s : AuthData) (m2 : List OutFrame) (h : s.err ≠ none) (m3 : M3) (u : Option Bytes) :
    cliPhase2 env s m2 ≠ .ok (m3, .accept u) :=
  fun hacc => h ((cliPhase2_accept_iff env s m2 u).mp ⟨m3, hacc⟩).2.1

/-- The server's proof cannot be handed back as the client's: for the same
    client id the two MAC inputs differ in the byte after the id, whatever the nonces. -/
theorem no_reflection (cid sid ra rb rb' : Bytes) : macMsg2 cid sid ra rb ≠ macMsg3 cid rb' := by
  unfold macMsg2 macMsg3
  intro h
  simp only [List.append_assoc, List.append_cancel_left_eq, List.cons_append, List.nil_append, List.cons.injEq] at h
  exact absurd h.1 (by decide)

/-- The client half
    of an exchange a server accepted under its nonce `rb` — the same frames of messages 1 and 3,
    byte for byte — is never accepted by a run that drew another nonce `rb'`, at any time, under any
    key store: the recorded message 3 echoes `rb`, and the server compares the echo with its own
    draw. That distinct runs draw distinct nonces is `crypto/rand`'s; the engine checks it on the
    implementation (all RA / RB of a run pairwise distinct, same token on several connections). -/
theorem replay_rejected_server (P P' : SrvCfg) (env : Env) (now now' : Int) (rb rb' : Bytes) (m1 m3 : List OutFrame)
    (u u' : Option Bytes) (h : serverRun P env now rb m1 m3 = .accept u) (hne : rb' ≠ rb) :
    serverRun P' env now' rb' m1 m3 ≠ .accept u' := by
  intro h'
  obtain ⟨w1, d1, _, _, _, w3, d3, hr1, _, _, _, _, _, hr3, _, _, _, hrb, _, _⟩ := (server_accept_iff ..).mp h
  obtain ⟨w1', d1', _, _, _, w3', d3', hr1', _, _, _, _, _, hr3', _, _, _, hrb', _, _⟩ := (server_accept_iff ..).mp h'
  cases hr1.symm.trans hr1'
  cases hr3.symm.trans hr3'
  exact hne (hrb'.symm.trans hrb)

/-- A message 2 that a client accepted under its nonce `ra` is never
    accepted by a run of a client (same or other token) that drew another nonce `ra'`. -/
theorem replay_rejected_client (env : Env) (tokenStr tokenStr' : Bytes) (usable usable' : Bool) (ra ra' : Bytes)
    (m2 : List OutFrame) (u u' : Option Bytes) (h : clientRun env tokenStr usable ra m2 = .accept u) (hne : ra' ≠ ra) :
    clientRun env tokenStr' usable' ra' m2 ≠ .accept u' := by
  intro h'
  obtain ⟨_, _, _, _, w2, d2, _, hr2, _, _, _, hra, _, _⟩ := (client_accept_iff ..).mp h
  obtain ⟨_, _, _, _, w2', d2', _, hr2', _, _, _, hra', _, _⟩ := (client_accept_iff ..).mp h'
  cases hr2.symm.trans hr2'
  exact hne (hra'.symm.trans hra)

/-- Clause 4. `VerifyIDToken` returns claims `cl` exactly when the
    (white-space trimmed) string has three segments, the header decodes, the key its `kid` names
    (absent, empty or not a string = POOL) is held, the third segment decodes to the signature of
    `header.payload` under that key, the payload decodes, the time claims are valid now, and the
    subject is a non-empty string — and `cl` is that subject with the token's `exp` and `iat`. -/
theorem verify_accepts_exactly (P : SrvCfg) (env : Env) (now : Int) (tokenStr : Bytes) (cl : IDClaims) :
    verifyIDToken P env now tokenStr = .ok cl ↔
    ∃ h p sg kidv key c, splitDots (trimSpace tokenStr) = [h, p, sg] ∧ env.hdr h = .ok kidv ∧
      loadSigningKey P.ks (keyIdOf kidv) = some key ∧ env.sigOf sg = .ok (.sign key (h ++ [dot] ++ p)) ∧
      env.claims p = .ok c ∧ TimeValid now (maxAgeOf P.cfgMaxAge P.envMaxAge) c ∧
      c.sub = .str cl.subject ∧ cl.subject ≠ [] ∧ cl.expiry = claimInt c.exp ∧ cl.issuedAt = claimInt c.iat := by
  unfold verifyIDToken
  constructor
  · intro h
    split at h
    next hh pp sg hsplit =>
      set_option smartUnfolding false in   -- for the `…_of_stage_ok` lemmas, see there
      obtain ⟨kidv, hhdr, h⟩ := seg_of_stage_ok h
      obtain ⟨key, hkey, h⟩ := key_of_stage_ok h
      cases hsig : env.sigOf sg with
      | ok actual =>
        rw [hsig] at h
        obtain ⟨hact, h⟩ := ite_else_of_ne h nofun
        obtain ⟨c, hc, h⟩ := seg_of_stage_ok h
        obtain ⟨htime, h⟩ := timing_of_stage_ok h
        cases hsub : c.sub with
        | str x =>
          rw [hsub] at h
          obtain ⟨hx, h⟩ := ite_else_of_ne h nofun
          cases h
          exact ⟨hh, pp, sg, kidv, key, c, hsplit, hhdr, hkey, by rw [hsig, Decidable.not_not.mp hact], hc, htime, hsub,
            by simpa using hx, rfl, rfl⟩
        | _ => rw [hsub] at h; cases h
      | _ => rw [hsig] at h; cases h
    next => cases h
  · obtain ⟨sj, ex, ia⟩ := cl
    rintro ⟨hh, pp, sg, kidv, key, c, hsplit, hhdr, hkey, hsig, hc, htime, hsub, hne, rfl, rfl⟩
    simp [hsplit, hhdr, hkey, hsig, hc, (checkTiming_ok_iff ..).mpr htime, hsub, hne]

/-- A token (with a string `kid` or none) that the
    exchange accepts as valid is, with its signature attached, accepted by the standalone check —
    the two paths apply the same key lookup and the same time rule. -/
theorem verify_accepts_what_the_exchange_accepts (P : SrvCfg) (env : Env) (now : Int) (h p sg key : Bytes) (c : Claims) (sub : Bytes)
    (hnodot : splitDots (h ++ [dot] ++ p) = [h, p]) (hv : ValidToken P env now (h ++ [dot] ++ p) key c)
    (hsub : c.sub = .str sub) (hne : sub ≠ []) (hsig : env.sigOf sg = .ok (.sign key (h ++ [dot] ++ p)))
    (hfull : splitDots (trimSpace (h ++ [dot] ++ p ++ [dot] ++ sg)) = [h, p, sg]) :
    verifyIDToken P env now (h ++ [dot] ++ p ++ [dot] ++ sg) = .ok ⟨sub, claimInt c.exp, claimInt c.iat⟩ := by
  obtain ⟨h', p', kidv, hs, hhdr, _, hkey, hc, ht⟩ := hv
  rw [hnodot] at hs
  simp only [List.cons.injEq, and_true] at hs
  obtain ⟨rfl, rfl⟩ := hs
  exact (verify_accepts_exactly ..).mpr ⟨h, p, sg, kidv, key, c, hfull, hhdr, hkey, hsig, hc, ht, hsub, hne, rfl, rfl⟩

/-- F-C11-identity-from-claim, on the subject rule as it was (`subjectBeforeFix`, a function of its
    own beside the model): a token without `sub` yielded whatever non-empty id the client announced. -/
theorem identity_before_fix_fails : ∃ claimed, subjectBeforeFix claimed .absent = .ok claimed ∧ claimed ≠ [] :=
  ⟨[109], rfl, by decide⟩

/-- `subjectAfterFix` does not look at the announced id (by definition: it ignores that argument).
    That `validate` does not either is read off `server_accept_iff`, where `w1.id` does not occur
    on the right. -/
theorem identity_after_fix (c1 c2 : Bytes) (sub : SubV) : subjectAfterFix c1 sub = subjectAfterFix c2 sub := by
  cases sub <;> rfl

/-! Non-vacuity and necessity of each check: one concrete valid exchange, and exchanges differing
    from it in a single element. -/
namespace Demo
def kid : Bytes := [107]                 -- "k"
def keyFile : Bytes := [1, 2, 3, 4]
def key : Bytes := scramble keyFile
def P : SrvCfg := { ks := { dirSet := true, named := fun k => if k = kid then some keyFile else none } }
def hSeg : Bytes := [104]               -- stands for the header segment
def pSeg : Bytes := [112]               -- payload segment
def qSeg : Bytes := [113]               -- payload segment of a token without subject
def tok : Bytes := hSeg ++ [dot] ++ pSeg
def sub : Bytes := [97, 64, 98]         -- "a@b"
def rb : Bytes := [5, 6]
def ra : Bytes := [7, 8]
def sid : Bytes := serverIDOf []
def K : MKey := .derive (.sign key tok) tok
def proof3 : Mac := .hmac K (macMsg3 sub rb)
def proof2 : Mac := .hmac K (macMsg2 sub sid ra rb)
def env : Env :=
  { hdr := fun b => if b = hSeg then .ok (.str kid) else .b64err,
    claims := fun b => if b = pSeg then .ok { exp := .num 1000, iat := .num 500, sub := .str sub }
                       else if b = qSeg then .ok { exp := .num 1000, iat := .num 500, sub := .absent } else .b64err,
    sigOf := fun b => if b = [115] then .ok (.sign key tok) else .b64err,
    macOf := fun b => if b = [51] then proof3 else if b = [50] then proof2 else .raw b }
def i64 (v : Int) : Bytes := be64 (toU64 v)
def idStr (s : Bytes) : Bytes := i64 s.length ++ s ++ [0]
def blob (b : Bytes) : Bytes := i64 b.length ++ b
def m1 (st : Int) (claimed t trail : Bytes) : List OutFrame := [(i64 st ++ idStr claimed ++ t ++ [0] ++ blob ra ++ trail, true)]
def m3 (st : Int) (id rbEcho mac trail : Bytes) : List OutFrame := [(i64 st ++ idStr id ++ blob rbEcho ++ blob mac ++ trail, true)]
def m2 (st : Int) (id raEcho mac : Bytes) : List OutFrame := [(i64 st ++ idStr id ++ idStr sid ++ blob raEcho ++ blob rb ++ blob mac, true)]
def goodM1 := m1 0 sub tok []
def goodM3 := m3 0 sub rb [51] []
def clientToken : Bytes := tok ++ [dot] ++ [115]
end Demo
open Demo

/-- the valid exchange is accepted, and the identity is the user part of the subject -/
example : serverRun P env 600 rb goodM1 goodM3 = .accept (some [97]) := by decide +kernel
/-- … also when the client announces another id, or none: the identity does not change -/
example : serverRun P env 600 rb (m1 0 [114, 111, 111, 116] tok []) goodM3 = .accept (some [97]) := by decide +kernel
example : serverRun P env 600 rb (m1 0 [] tok []) goodM3 = .accept (some [97]) := by decide +kernel
/-- … and when the frames are cut elsewhere -/
example : serverRun P env 600 rb [((goodM1.map (·.1)).flatten.take 9, false), ((goodM1.map (·.1)).flatten.drop 9, true)] goodM3
    = .accept (some [97]) := by decide +kernel

example : serverRun P env 600 rb goodM1 (m3 0 sub rb [52] []) = .reject (.auth .mac) := by decide +kernel             -- other proof bytes
example : serverRun P env 600 rb goodM1 (m3 0 sub rb [] []) = .reject (.auth .mac) := by decide +kernel               -- empty proof
example : serverRun P env 600 rb goodM1 (m3 0 sub rb [50] []) = .reject (.auth .mac) := by decide +kernel             -- the server's own proof reflected
example : serverRun P env 600 rb goodM1 (m3 0 sub [5, 7] [51] []) = .reject (.auth .nonceMismatch) := by decide +kernel -- wrong RB echo
example : serverRun P env 600 rb goodM1 (m3 0 sub [5] [51] []) = .reject (.auth .nonceMismatch) := by decide +kernel  -- truncated RB echo
example : serverRun P env 600 [5, 9] goodM1 goodM3 = .reject (.auth .nonceMismatch) := by decide +kernel              -- proof for another run's RB
example : serverRun P env 600 rb goodM1 (m3 0 [114] rb [51] []) = .reject (.auth .idMismatch) := by decide +kernel    -- other id in message 3
example : serverRun P env 600 rb goodM1 (m3 1 sub rb [51] []) = .reject (.auth .status) := by decide +kernel          -- status ≠ OK
example : serverRun P env 600 rb goodM1 (m3 (-1) sub rb [51] []) = .reject (.auth .peerError) := by decide +kernel
example : serverRun P env 600 rb goodM1 (m3 0 sub rb [51] [0]) = .reject (.auth .trailing) := by decide +kernel       -- trailing byte
example : serverRun P env 600 rb (m1 1 sub tok []) goodM3 = .reject (.auth .status) := by decide +kernel
example : serverRun P env 600 rb (m1 0 sub tok [0]) goodM3 = .reject (.auth .trailing) := by decide +kernel
example : serverRun P env 1000 rb goodM1 goodM3 = .reject (.auth .expired) := by decide +kernel                      -- now = exp
example : serverRun P env 999 rb goodM1 goodM3 = .accept (some [97]) := by decide +kernel                            -- now = exp − 1
example : serverRun { P with cfgMaxAge := 100 } env 600 rb goodM1 goodM3 = .accept (some [97]) := by decide +kernel   -- age = max age
example : serverRun { P with cfgMaxAge := 100 } env 601 rb goodM1 goodM3 = .reject (.auth .tooOld) := by decide +kernel -- age = max age + 1
example : serverRun { P with ks := { dirSet := true } } env 600 rb goodM1 goodM3 = .reject (.auth .noKey) := by decide +kernel -- key not held
example : serverRun P env 600 rb (m1 0 sub (hSeg ++ [dot] ++ [120]) []) goodM3 = .reject (.auth .payload) := by decide +kernel -- altered payload
example : serverRun P env 600 rb (m1 0 sub (hSeg ++ [dot] ++ qSeg) []) goodM3 = .reject (.auth .noSub) := by decide +kernel     -- no subject …
example : serverRun P env 600 rb (m1 0 [109] (hSeg ++ [dot] ++ qSeg) []) (m3 0 [109] rb [51] []) = .reject (.auth .noSub) := by decide +kernel -- … whatever is announced (F-C11-identity-from-claim)
/-- a refused message 1 followed by the proof anyone can compute (empty key, no nonce) -/
example : serverRun P { env with macOf := fun b => if b = [48] then .hmac .nil (macMsg3 sub []) else .raw b } 1000 rb goodM1
    (m3 0 sub [] [48] []) = .reject (.auth .expired) := by decide +kernel

example : clientRun env clientToken true ra (m2 0 sub ra [50]) = .accept none := by decide +kernel
example : clientRun env clientToken true ra (m2 0 sub ra [50] ++ [([1, 2, 3], true)]) = .accept none := by decide +kernel   -- bytes after message 2: not looked at
example : clientRun env clientToken true ra (m2 0 sub ra [53]) = .reject (.auth .mac) := by decide +kernel
example : clientRun env clientToken true ra (m2 0 sub ra [51]) = .reject (.auth .mac) := by decide +kernel             -- a message-3 proof
example : clientRun env clientToken true ra (m2 0 sub ra []) = .reject (.auth .mac) := by decide +kernel
example : clientRun env clientToken true ra (m2 0 sub [7, 9] [50]) = .reject (.auth .nonceMismatch) := by decide +kernel
example : clientRun env clientToken true [7, 9] (m2 0 sub ra [50]) = .reject (.auth .nonceMismatch) := by decide +kernel -- answer to another run's RA
example : clientRun env clientToken true ra (m2 0 [120] ra [50]) = .reject (.auth .idMismatch) := by decide +kernel
example : clientRun env clientToken true ra (m2 2 sub ra [50]) = .reject (.auth .status) := by decide +kernel
example : clientRun env clientToken true ra (m2 (-1) sub ra [50]) = .reject (.auth .peerError) := by decide +kernel
example : clientRun env tok true ra (m2 0 sub ra [50]) = .reject (.auth .load) := by decide +kernel                    -- no signature segment

example : verifyIDToken P env 600 clientToken = .ok ⟨sub, 1000, 500⟩ := by decide +kernel
example : verifyIDToken P env 600 ([32] ++ clientToken ++ [10]) = .ok ⟨sub, 1000, 500⟩ := by decide +kernel
example : verifyIDToken P env 1000 clientToken = .error .expired := by decide +kernel
example : verifyIDToken P { env with sigOf := fun _ => .ok (.raw [1]) } 600 clientToken = .error .sig := by decide +kernel
example : verifyIDToken P { env with sigOf := fun _ => .ok (.sign [9] tok) } 600 clientToken = .error .sig := by decide +kernel   -- signed by another key
example : verifyIDToken { P with ks := { dirSet := true } } env 600 clientToken = .error .noKey := by decide +kernel
example : verifyIDToken P env 600 tok = .error .tokFormat := by decide +kernel

-- nbf (fix F-C11-nbf-ignored): not yet valid / valid from now on / not a number
example : checkTiming 600 3600 { nbf := .num 601 } = .error .notYet := by decide +kernel
example : checkTiming 600 3600 { nbf := .num 600 } = .ok () := by decide +kernel
example : checkTiming 600 3600 { nbf := .bad } = .error .badTime := by decide +kernel

-- replay: the hypotheses of the two replay theorems are met by the accepted runs above
example : serverRun P env 700 [5, 9] goodM1 goodM3 ≠ .accept (some [97]) :=
  replay_rejected_server P P env 600 700 rb [5, 9] goodM1 goodM3 (some [97]) (some [97]) (by decide +kernel) (by decide)
example : clientRun env clientToken true [7, 9] (m2 0 sub ra [50]) ≠ .accept none :=
  replay_rejected_client env clientToken clientToken true true ra [7, 9] (m2 0 sub ra [50]) none none (by decide +kernel) (by decide)

/-! ### the same token presented again, later

"Presents a currently valid token" is about the clock of EACH presentation. -/

/-- No revival: a token that is refused as expired or as too old at one clock is refused at every
    later clock. -/
theorem expired_or_too_old_is_forever (now now' ma : Int) (c : Claims) (hle : now ≤ now')
    (h : checkTiming now ma c = .error .expired ∨ checkTiming now ma c = .error .tooOld) :
    checkTiming now' ma c ≠ .ok () := by
  rw [Ne, checkTiming_ok_iff, timeValid_iff]
  rintro ⟨he, hi, -⟩
  simp [checkTiming_eq, claimStep_eq_iff] at h
  -- `h : (∃ v, c.exp = .num v ∧ v ≤ now) ∨ c.exp.Holds (now < ·) ∧ ∃ v, c.iat = .num v ∧ 0 < ma ∧ v < now - ma`
  rcases h with ⟨v, hv, h⟩ | ⟨-, v, hv, h⟩
  · rw [hv] at he; exact Int.not_le.mpr he (Int.le_trans h hle)
  · rw [hv] at hi; exact hi ⟨h.1, Int.lt_of_lt_of_le h.2 (Int.sub_le_sub_right hle ma)⟩

/-- Valid at two clocks ⇒ valid at every clock in between. With `expired_or_too_old_is_forever`:
    "accepted earlier" is no evidence for "valid now" beyond the window itself, so the test has to
    be evaluated at each presentation. -/
theorem validity_window_convex (t1 t2 t3 ma : Int) (c : Claims) (h12 : t1 ≤ t2) (h23 : t2 ≤ t3)
    (h1 : checkTiming t1 ma c = .ok ()) (h3 : checkTiming t3 ma c = .ok ()) :
    checkTiming t2 ma c = .ok () := by
  rw [checkTiming_ok_iff, timeValid_iff] at *
  exact ⟨h3.1.imp fun _ => Int.lt_of_le_of_lt h23,
    h3.2.1.imp fun _ hv h => hv ⟨h.1, Int.lt_of_lt_of_le h.2 (Int.sub_le_sub_right h23 ma)⟩,
    h1.2.2.imp fun _ hv => Int.le_trans hv h12⟩

/-- accepted at the first presentation, refused at the second (the engine's `aging:*` cases) -/
example : checkTiming 1000 40 { iat := .num 961, exp := .num 5000 } = .ok () ∧
          checkTiming 1002 40 { iat := .num 961, exp := .num 5000 } = .error .tooOld ∧
          checkTiming 1000 40 { iat := .num 1000, exp := .num 1002 } = .ok () ∧
          checkTiming 1002 40 { iat := .num 1000, exp := .num 1002 } = .error .expired := by decide +kernel

end Cedar.C11
