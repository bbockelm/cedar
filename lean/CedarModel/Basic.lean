/-
  L0: bytes, big-endian integers, error classes.
  models: encoding/binary.BigEndian.{PutUint32,Uint32,PutUint64,Uint64}
  Core Lean only (the oracle executable links this).
-/
namespace Cedar

abbrev Bytes := List UInt8

/-- Error classes. The correspondence check maps Go error strings onto these. -/
inductive Err
  | tooLarge      -- "message too large"
  | badFlag       -- "invalid end flag" / "unexpected end flag"
  | authFail      -- AES-GCM open failed / too short for tag / IV / empty encrypted data
  | counterMax    -- "hit maximum number of packets per connection"
  | eof           -- wire exhausted (connection EOF)
  | eom           -- io.EOF: the current message has no more bytes
  | state         -- API misuse (write after EOM, no message being read, ...)
  | notConsumed   -- EndMessageRead with bytes left
  | sizeExceeded  -- capped reader
  | malformed     -- decoder rejected the input
  | refused       -- export refused / policy refusal
  | plainOnKeyed  -- fix D2: cleartext empty frame on an encrypting stream
  | panic         -- the Go code would panic here (never a legitimate outcome)
  deriving DecidableEq, Repr, Inhabited

def Err.name : Err → String
  | .tooLarge => "tooLarge" | .badFlag => "badFlag" | .authFail => "authFail"
  | .counterMax => "counterMax" | .eof => "eof" | .eom => "eom" | .state => "state"
  | .notConsumed => "notConsumed" | .sizeExceeded => "sizeExceeded"
  | .malformed => "malformed" | .refused => "refused" | .plainOnKeyed => "plainOnKeyed"
  | .panic => "panic"

/-- big-endian, `n` bytes, value taken mod 256^n (Go's uint32()/uint64() conversions). -/
def beN : Nat → Nat → Bytes
  | 0, _ => []
  | n+1, v => UInt8.ofNat ((v / 256 ^ n) % 256) :: beN n v

def be32 (v : Nat) : Bytes := beN 4 v
def be64 (v : Nat) : Bytes := beN 8 v
def be16 (v : Nat) : Bytes := beN 2 v

def beVal : Bytes → Nat
  | [] => 0
  | b :: bs => b.toNat * 256 ^ bs.length + beVal bs

/-- two's complement: Int (any) → 64-bit pattern -/
def toU64 (i : Int) : Nat := (i % (2^64 : Int)).toNat
/-- 64-bit pattern → signed -/
def ofU64 (n : Nat) : Int := if n < 2^63 then (n : Int) else (n : Int) - (2^64 : Int)
/-- low 32 bits read as signed (Go int32(x)) -/
def toI32 (i : Int) : Int :=
  let m := (i % (2^32 : Int)).toNat
  if m < 2^31 then (m : Int) else (m : Int) - (2^32 : Int)
/-- low 32 bits read as unsigned (Go uint32(x)) -/
def toU32 (i : Int) : Nat := (i % (2^32 : Int)).toNat

/-- `l.length ≥ n` without walking the whole list (the oracle runs on megabyte buffers) -/
def lenGe {α : Type} : List α → Nat → Bool
  | _, 0 => true
  | [], _ + 1 => false
  | _ :: t, n + 1 => lenGe t n

theorem lenGe_iff {α : Type} (l : List α) (n : Nat) : lenGe l n = true ↔ l.length ≥ n := by
  induction l generalizing n with
  | nil => cases n <;> simp [lenGe]
  | cons a t ih => cases n with
    | zero => simp [lenGe]
    | succ n => simp [lenGe, ih]

theorem lenGe_eq_decide {α : Type} (l : List α) (n : Nat) : lenGe l n = decide (n ≤ l.length) := by
  rw [Bool.eq_iff_iff, lenGe_iff]; simp

def hexDigit (n : Nat) : Char :=
  if n < 10 then Char.ofNat (48 + n) else Char.ofNat (87 + n)

def hexOf (b : Bytes) : String :=
  String.ofList (b.foldr (fun x acc => hexDigit (x.toNat / 16) :: hexDigit (x.toNat % 16) :: acc) [])

def hexVal (c : Char) : Option Nat :=
  if '0' ≤ c ∧ c ≤ '9' then some (c.toNat - 48)
  else if 'a' ≤ c ∧ c ≤ 'f' then some (c.toNat - 87)
  else if 'A' ≤ c ∧ c ≤ 'F' then some (c.toNat - 55)
  else none

def unhexAux : List Char → Option Bytes
  | [] => some []
  | [_] => none
  | a :: b :: rest => do
      let x ← hexVal a
      let y ← hexVal b
      let r ← unhexAux rest
      pure (UInt8.ofNat (x * 16 + y) :: r)

/-- Payload syntax of the line protocol: `-` (empty), hex, or `fill:<n>:<byte-hex>`,
    parts joined by `+`. -/
def parsePayloadPart (s : String) : Option Bytes :=
  if s == "-" || s == "" then some []
  else match s.splitOn ":" with
    | ["fill", n, b] => do
        let k ← n.toNat?
        let v ← unhexAux b.toList
        match v with
        | [x] => some (List.replicate k x)
        | _ => none
    | _ => unhexAux s.toList

def parsePayload (s : String) : Option Bytes :=
  (s.splitOn "+").foldlM (fun acc p => do let b ← parsePayloadPart p; pure (acc ++ b)) []

/-- compact rendering for large payloads: length + a cheap checksum (sum, xor-position mix). -/
def digestOf (b : Bytes) : String :=
  let (s, m) := b.foldl (fun (acc : Nat × Nat) x =>
      ((acc.1 + x.toNat) % 65521, (acc.2 * 31 + x.toNat + 1) % 4294967291)) (0, 7)
  s!"n{b.length}s{s}m{m}"

def showBytes (b : Bytes) : String :=
  if b.length ≤ 48 then (if b.isEmpty then "-" else hexOf b) else digestOf b

end Cedar
