/-
  Helper lemmas for C10: the authentication retry loop of two honest endpoints finds a method
  whenever a usable common one exists (completeness), for method sets whose bitmask values are
  distinct single bits.
-/
import CedarModel.Handshake
import CedarProofs.BitLemmas

namespace Cedar.HS
open Cedar.Bits

/-- the methods in play have single-bit mask values, distinct for distinct methods; `sub`: `offered` is built by
    filtering on the server's list -/
structure BitSys (own offered : List String) : Prop where
  single : ∀ m, (m ∈ own ∨ m ∈ offered) → ∃ i, authBit m = 2 ^ i
  inj : ∀ a b, (a ∈ own ∨ a ∈ offered) → (b ∈ own ∨ b ∈ offered) → authBit a = authBit b → a = b
  sub : ∀ m, m ∈ offered → m ∈ own

def bitSysCheck (own offered : List String) : Bool :=
  (own ++ offered).all (fun m => authBit m != 0 && authBit m == 2 ^ (authBit m).log2) &&
  (own ++ offered).all (fun a => (own ++ offered).all (fun b => authBit a != authBit b || a == b)) &&
  offered.all (fun m => own.contains m)

theorem bitSys_of_check {own offered : List String} (h : bitSysCheck own offered = true) : BitSys own offered := by
  unfold bitSysCheck at h
  simp only [Bool.and_eq_true, List.all_eq_true, List.mem_append, bne_iff_ne, ne_eq, beq_iff_eq, Bool.or_eq_true,
    List.contains_eq_mem, decide_eq_true_eq] at h
  obtain ⟨⟨h1, h2⟩, h3⟩ := h
  refine ⟨fun m hm => ⟨_, (h1 m hm).2⟩, fun a b ha hb hab => ?_, h3⟩
  rcases h2 a ha b hb with hne | he
  · exact absurd hab hne
  · exact he

/-- its length is what the loop's fuel is measured against -/
def untried (offered tried : List String) : List String := offered.filter (fun m => !tried.contains m)

/-- `tried` is a ghost: the methods `jointLoop` has run so far, all failed, whose bits have left `mask` -/
structure LoopInv (offered : List String) (credOK : String → Bool) (mask : Nat) (tried : List String) : Prop where
  bits : ∀ i, mask.testBit i = true ↔ ∃ m, m ∈ offered ∧ authBit m = 2 ^ i ∧ m ∉ tried
  failed : ∀ m, m ∈ tried → credOK m = false

theorem untried_cons_lt (offered tried : List String) (m : String) (hm : m ∈ offered) (hn : m ∉ tried) :
    (untried offered (m :: tried)).length < (untried offered tried).length := by
  have : untried offered (m :: tried) = (untried offered tried).filter (· != m) := by
    simp only [untried, List.filter_filter, List.contains_cons, Bool.not_or, bne]
  rw [this]
  exact List.length_filter_lt_length_iff_exists.mpr ⟨m, List.mem_filter.mpr ⟨hm, by simpa using hn⟩, by simp⟩

theorem loopInv_init {own offered : List String} (credOK : String → Bool) (hs : BitSys own offered) :
    LoopInv offered credOK (bitmaskOf offered) [] := by
  constructor
  · intro i
    unfold bitmaskOf
    rw [testBit_foldl_lor]
    simp only [Nat.zero_testBit, Bool.false_or, List.any_eq_true, List.not_mem_nil, not_false_eq_true, and_true]
    constructor
    · rintro ⟨m, hm, hb⟩
      obtain ⟨k, hk⟩ := hs.single m (Or.inr hm)
      rw [hk, Nat.testBit_two_pow, decide_eq_true_eq] at hb
      exact ⟨m, hm, hb ▸ hk⟩
    · rintro ⟨m, hm, hb⟩
      exact ⟨m, hm, by rw [hb]; exact Nat.testBit_two_pow_self⟩
  · intro m hm; cases hm

theorem LoopInv.step {own offered : List String} {credOK : String → Bool} {mask : Nat} {tried : List String}
    {m : String} {i : Nat} (hs : BitSys own offered) (hinv : LoopInv offered credOK mask tried)
    (hmo : m ∈ offered) (hi : authBit m = 2 ^ i) (hb : mask.testBit i = true) (hf : credOK m = false) :
    LoopInv offered credOK (mask - authBit m) (m :: tried) := by
  constructor
  · intro j
    rw [hi, testBit_sub_two_pow hb j]
    simp only [Bool.and_eq_true, decide_eq_true_eq, List.mem_cons, not_or]
    constructor
    · rintro ⟨hj, hne⟩
      obtain ⟨x, hxo, hxb, hxt⟩ := (hinv.bits j).mp hj
      refine ⟨x, hxo, hxb, ?_, hxt⟩
      rintro rfl
      exact hne ((Nat.pow_right_inj (by decide)).mp (hi ▸ hxb))
    · rintro ⟨x, hxo, hxb, hxne, hxt⟩
      refine ⟨(hinv.bits j).mpr ⟨x, hxo, hxb, hxt⟩, ?_⟩
      rintro rfl
      exact hxne (hs.inj x m (Or.inr hxo) (Or.inr hmo) (by rw [hxb, hi]))
  · intro x hx
    rcases List.mem_cons.mp hx with rfl | hx
    · exact hf
    · exact hinv.failed x hx

/-- under the invariant one round is decided: both `find?`s land on the same untried offered method `m`, so the round
    is `if credOK m then success else recurse with m's bit removed`, and the invariant survives the recursion -/
theorem jointLoop_round {own offered : List String} {credOK : String → Bool} {mask : Nat} {tried : List String}
    (hs : BitSys own offered) (hinv : LoopInv offered credOK mask tried)
    {g : String} (hg : g ∈ offered) (hgt : g ∉ tried) :
    ∃ m, m ∈ offered ∧ m ∉ tried ∧ (credOK m = false → LoopInv offered credOK (mask - authBit m) (m :: tried)) ∧
      ∀ fuel ran, jointLoop offered own credOK (fuel + 1) mask ran =
        if credOK m then .success m (ran ++ [(m, true)])
        else jointLoop offered own credOK fuel (mask - authBit m) (ran ++ [(m, false)]) := by
  have inMask {x : String} {i : Nat} (hx : authBit x = 2 ^ i) :
      (Nat.land mask (authBit x) != 0) = true ↔ mask.testBit i = true := by
    rw [hx, bne_iff_ne]; exact and_two_pow_ne_zero
  obtain ⟨ig, hig⟩ := hs.single g (Or.inr hg)
  have hbg : mask.testBit ig = true := (hinv.bits ig).mpr ⟨g, hg, hig, hgt⟩
  have hm0 : mask ≠ 0 := by rintro rfl; simp at hbg
  -- the server finds a method: `g`'s bit is in the mask
  cases hfs : own.find? (fun m => Nat.land mask (authBit m) != 0) with
  | none => exact absurd ((inMask hig).mpr hbg) (List.find?_eq_none.mp hfs g (hs.sub g hg))
  | some mS =>
    have hmSown : mS ∈ own := List.mem_of_find?_eq_some hfs
    obtain ⟨is, his⟩ := hs.single mS (Or.inl hmSown)
    have hpS := List.find?_some hfs
    have hbS : mask.testBit is = true := (inMask his).mp hpS
    obtain ⟨m, hmo, hmb, hmt⟩ := (hinv.bits is).mp hbS
    obtain rfl : m = mS := hs.inj m mS (Or.inr hmo) (Or.inl hmSown) (by rw [hmb, his])
    -- the client maps the bit back to the same method; its test is written as `jointLoop` unfolds to
    -- it, which is how the closing `simp only [hfc]` finds it
    have hq : (decide (authBit m = authBit m) && (Nat.land (authBit m) mask == authBit m)) = true := by
      simp only [decide_true, Bool.true_and, beq_iff_eq]
      rw [his]; exact two_pow_and_eq_iff.mpr hbS
    cases hfc : offered.find? (fun x => decide (authBit x = authBit m) && (Nat.land (authBit m) mask == authBit m)) with
    | none => exact absurd hq (List.find?_eq_none.mp hfc m hmo)
    | some mC =>
      have hqC := List.find?_some hfc
      simp only [Bool.and_eq_true, decide_eq_true_eq] at hqC
      obtain rfl : mC = m := hs.inj mC m (Or.inr (List.mem_of_find?_eq_some hfc)) (Or.inr hmo) hqC.1
      refine ⟨mC, hmo, hmt, hinv.step hs hmo his hbS, fun fuel ran => ?_⟩
      rw [jointLoop, if_neg hm0, hfs]
      simp only [hfc, true_and]

theorem jointLoop_complete {own offered : List String} {credOK : String → Bool}
    (hs : BitSys own offered) (g : String) (hg : g ∈ offered) (hgc : credOK g = true) :
    ∀ (fuel mask : Nat) (tried : List String) (ran : List (String × Bool)),
      LoopInv offered credOK mask tried → (untried offered tried).length < fuel →
      ∃ m ran', jointLoop offered own credOK fuel mask ran = .success m ran' ∧ credOK m = true := by
  intro fuel
  induction fuel with
  | zero => intro mask tried ran _ h; omega
  | succ fuel ih =>
    intro mask tried ran hinv hfuel
    have hgt : g ∉ tried := fun h => by have := hinv.failed g h; rw [hgc] at this; cases this
    obtain ⟨m, hmo, hmt, hstep, hround⟩ := jointLoop_round (own := own) hs hinv hg hgt
    rw [hround]
    cases hc : credOK m with
    | true => exact ⟨m, _, rfl, hc⟩
    | false =>
      have hlt := untried_cons_lt offered tried m hmo hmt
      exact ih _ (m :: tried) _ (hstep hc) (by omega)

end Cedar.HS
