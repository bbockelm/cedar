/-
  The frame layer on raw wire bytes, for C13. One header parse is `FrameFacts`. The readers that
  assemble a message (`ReceiveCompleteMessage`, `StartMessageRead`) are summarised by `WireFacts`:
  every header is paid for by the wire bytes it occupies, every payload byte is allocated at most
  twice (frame buffer, message under assembly). The reader without end flag (`stream.ReceiveFrame`)
  and its callers `GetSecret` / `GetFile` are sequences of frame reads, summarised by `SeqFacts`,
  which composes (`SeqFacts.seq`): what a successful prefix allocated was paid for by wire bytes it
  consumed, and only the last, failing read may have sized a buffer (≤ MaxMessageSize) from a header.

  The loops (`recvComplete`, `readMessage`, `fileChunks`) are fuelled; the facts hold for every fuel,
  running out of it being one more error. That `wireFuel` suffices is not proved.
-/
import CedarProofs.DecodeLemmas

namespace Cedar.Decode
open Cedar

/-- a result is (end flag, payload, rest of the wire) -/
structure FrameFacts (w : Bytes) (m : WMeter) (r : Except Err (Nat × Bytes × Bytes)) (m' : WMeter) : Prop where
  np : r ≠ .error .panic
  frames : m'.frames ≤ m.frames + 1
  depth : m'.depth = m.depth
  alloc : m'.alloc ≤ m.alloc + maxMessageSize
  ok : ∀ fl p rest, r = .ok (fl, p, rest) → w.length = headerSize + p.length + rest.length ∧ m'.alloc = m.alloc + p.length

theorem recvFrame_facts (encOn : Bool) (w : Bytes) (m : WMeter) : Outcome (recvFrame encOn w m) (FrameFacts w m) := by
  unfold recvFrame
  refine .ite (fun _ => ⟨np_of_ne nofun, Nat.le_succ _, rfl, Nat.le_add_right _ _, nofun⟩) fun h5 => ?_
  have hw : headerSize ≤ w.length := by simpa [lenGe_eq_decide] using h5
  refine .ite (fun _ => ⟨np_of_ne nofun, Nat.le_refl _, rfl, Nat.le_add_right _ _, nofun⟩) fun hbig => ?_
  refine .ite (fun _ => ⟨np_of_ne nofun, Nat.le_refl _, rfl, Nat.le_add_right _ _, nofun⟩) fun _ => ?_
  refine .ite (fun _ => ?_) fun _ => ?_
  · cases encOn
    · refine ⟨np_ok _, Nat.le_refl _, rfl, Nat.le_add_right _ _, fun fl p rest hv => ?_⟩
      cases hv
      exact ⟨by rw [List.length_drop, List.length_nil, Nat.add_zero, Nat.add_sub_of_le hw], rfl⟩
    · exact ⟨np_of_ne nofun, Nat.le_refl _, rfl, Nat.le_add_right _ _, nofun⟩
  refine .ite (fun _ => ⟨np_of_ne nofun, Nat.le_refl _, rfl, Nat.add_le_add_left (Nat.le_of_not_gt hbig) _, nofun⟩)
    fun hshort => ?_
  refine ⟨np_ok _, Nat.le_refl _, rfl, Nat.add_le_add_left (Nat.le_of_not_gt hbig) _, fun fl p rest hv => ?_⟩
  cases hv
  have hlen : beVal ((w.drop 1).take 4) ≤ (w.drop headerSize).length := by simpa [lenGe_eq_decide] using hshort
  simp only [List.length_take, List.length_drop] at hlen ⊢
  rw [Nat.min_eq_left hlen]
  exact ⟨by rw [Nat.add_assoc, Nat.add_sub_of_le hlen, Nat.add_sub_of_le hw], rfl⟩

theorem recvFrame_tooLarge (encOn : Bool) (w : Bytes) (m : WMeter) (h5 : headerSize ≤ w.length)
    (hbig : beVal ((w.drop 1).take 4) > maxMessageSize) :
    recvFrame encOn w m = (.error .tooLarge, { m with frames := m.frames + 1 }) := by
  unfold recvFrame
  rw [if_neg (by simp [lenGe_eq_decide, h5])]
  rw [if_pos hbig]

/-- a result is (message, rest of the wire) -/
structure WireFacts (w : Bytes) (m : WMeter) (r : Except Err (Bytes × Bytes)) (m' : WMeter) : Prop where
  np : r ≠ .error .panic
  frames : headerSize * m'.frames ≤ headerSize * m.frames + w.length + headerSize
  alloc : m'.alloc ≤ m.alloc + 2 * w.length + maxMessageSize

theorem FrameFacts.wire {w : Bytes} {m m' : WMeter} {r} (f : FrameFacts w m r m') :
    headerSize * m'.frames ≤ headerSize * m.frames + headerSize :=
  Nat.mul_le_mul_left _ f.frames

theorem WireFacts.refl {w : Bytes} {m : WMeter} {r} (np : r ≠ .error .panic) : WireFacts w m r m :=
  ⟨np, Nat.le_trans (Nat.le_add_right _ _) (Nat.le_add_right _ _), Nat.le_trans (Nat.le_add_right _ _) (Nat.le_add_right _ _)⟩

theorem WireFacts.fresh {w : Bytes} {r} {m' : WMeter} (f : WireFacts w {} r m') :
    headerSize * m'.frames ≤ w.length + headerSize ∧ m'.alloc ≤ 2 * w.length + maxMessageSize := by
  have h1 := f.frames
  have h2 := f.alloc
  simp only [Nat.mul_zero, Nat.zero_add] at h1 h2
  exact ⟨h1, h2⟩

theorem FrameFacts.err {w : Bytes} {m m1 : WMeter} {e : Err} (ff : FrameFacts w m (.error e) m1) :
    WireFacts w m (.error e) m1 :=
  ⟨np_cast ff.np, Nat.le_trans ff.wire (Nat.add_le_add_right (Nat.le_add_right ..) _),
    Nat.le_trans ff.alloc (Nat.add_le_add_right (Nat.le_add_right ..) _)⟩

/-- `m2`: the payload was appended to the message under assembly. The header pays for its parse,
    the payload for its buffer and the append. -/
theorem FrameFacts.seq {w p rest : Bytes} {fl : Nat} {m m1 m2 m' : WMeter} {r}
    (ff : FrameFacts w m (.ok (fl, p, rest)) m1) (wf : WireFacts rest m2 r m') (hf : m2.frames = m1.frames)
    (ha : m2.alloc = m1.alloc + p.length) : WireFacts w m r m' := by
  obtain ⟨hw, hal⟩ := ff.ok fl p rest rfl
  have := ff.wire
  exact ⟨wf.np, by have := wf.frames; rw [hf] at this; omega, by have := wf.alloc; omega⟩

theorem recvComplete_facts (encOn : Bool) : ∀ (fuel : Nat) (w acc : Bytes) (m : WMeter),
    Outcome (recvComplete encOn fuel w acc m) fun r m' => WireFacts w m r m' ∧ m'.depth = m.depth
  | 0, w, acc, m => ⟨.refl (np_of_ne nofun), rfl⟩
  | fuel + 1, w, acc, m => by
    unfold recvComplete
    split
    next e m1 hf => exact ⟨((recvFrame_facts encOn w m).of_eq hf).err, ((recvFrame_facts encOn w m).of_eq hf).depth⟩
    next fl p rest m1 hf =>
      have ff := (recvFrame_facts encOn w m).of_eq hf
      dsimp only
      split
      · exact ⟨ff.seq (.refl (np_ok _)) rfl rfl, ff.depth⟩
      · split
        · obtain ⟨wf, hd⟩ := recvComplete_facts encOn fuel rest (acc ++ p) { m1 with alloc := m1.alloc + p.length }
          exact ⟨ff.seq wf rfl rfl, hd.trans ff.depth⟩
        · exact ⟨ff.seq (.refl (np_of_ne nofun)) rfl rfl, ff.depth⟩

theorem readMessage_facts (encOn : Bool) : ∀ (fuel : Nat) (w acc : Bytes) (m : WMeter),
    Outcome (readMessage encOn fuel w acc m) fun r m' => WireFacts w m r m' ∧ m'.depth ≤ max m.depth 1
  | 0, w, acc, m => ⟨.refl (np_of_ne nofun), Nat.le_max_left _ _⟩
  | fuel + 1, w, acc, m => by
    unfold readMessage
    split
    next e m1 hf =>
      have ff := (recvFrame_facts encOn w m).of_eq hf
      exact ⟨ff.err, ff.depth ▸ Nat.le_max_left _ _⟩
    next fl p rest m1 hf =>
      have ff := (recvFrame_facts encOn w m).of_eq hf
      dsimp only
      split
      · obtain ⟨wf, hd⟩ := readMessage_facts encOn fuel rest (acc ++ p)
          { m1 with alloc := m1.alloc + p.length, depth := max m1.depth 1 }
        exact ⟨ff.seq wf rfl rfl, ff.depth ▸ Nat.le_trans hd (Nat.max_le.mpr ⟨Nat.le_refl _, Nat.le_max_right ..⟩)⟩
      · exact ⟨ff.seq (.refl (np_ok _)) rfl rfl, ff.depth ▸ Nat.le_refl _⟩

/-- The model transcribes `ReceiveFrame` beside `ReceiveFrameWithEnd`, guard by guard, as the Go code has
    them; everything else about `recvFrameNE` is read off `recvFrame` through this equation. -/
theorem recvFrameNE_eq (encOn : Bool) (w : Bytes) (m : WMeter) :
    recvFrameNE encOn w m =
      (match recvFrame encOn w m with
       | (.error e, m1) => (.error e, m1)
       | (.ok (_, p, rest), m1) => (.ok (p, rest), m1)) := by
  unfold recvFrameNE recvFrame
  by_cases h5 : (!lenGe w headerSize) = true
  · rw [if_pos h5, if_pos h5]
  · rw [if_neg h5, if_neg h5]
    by_cases hbig : beVal ((w.drop 1).take 4) > maxMessageSize
    · rw [if_pos hbig, if_pos hbig]
    · rw [if_neg hbig, if_neg hbig]
      by_cases hflag : ((w.take 1).headD 0).toNat > 10
      · rw [if_pos hflag, if_pos hflag]
      · rw [if_neg hflag, if_neg hflag]
        by_cases hz : beVal ((w.drop 1).take 4) = 0
        · rw [if_pos hz, if_pos hz]
          cases encOn <;> rfl
        · rw [if_neg hz, if_neg hz]
          by_cases hshort : (!lenGe (w.drop headerSize) (beVal ((w.drop 1).take 4))) = true
          · rw [if_pos hshort, if_pos hshort]
          · rw [if_neg hshort, if_neg hshort]

structure SeqFacts {α : Type} (w : Bytes) (m : WMeter) (r : Except Err (α × Bytes)) (m' : WMeter) : Prop where
  np : r ≠ .error .panic
  frames : headerSize * m'.frames ≤ headerSize * m.frames + w.length + headerSize
  alloc : m'.alloc ≤ m.alloc + w.length + maxMessageSize
  depth : m'.depth = m.depth
  ok : ∀ v rest, r = .ok (v, rest) →
    headerSize * m'.frames + rest.length ≤ headerSize * m.frames + w.length ∧
    m'.alloc + rest.length ≤ m.alloc + w.length ∧ rest.length ≤ w.length

theorem SeqFacts.fresh {α : Type} {w : Bytes} {r : Except Err (α × Bytes)} {m' : WMeter} (f : SeqFacts w {} r m') :
    headerSize * m'.frames ≤ w.length + headerSize ∧ m'.alloc ≤ w.length + maxMessageSize ∧ m'.depth = 0 := by
  have h1 := f.frames
  have h2 := f.alloc
  simp only [Nat.mul_zero, Nat.zero_add] at h1 h2
  exact ⟨h1, h2, f.depth⟩

theorem recvFrameNE_facts (encOn : Bool) (w : Bytes) (m : WMeter) :
    Outcome (recvFrameNE encOn w m) fun r m' => SeqFacts w m r m' ∧
      ∀ p rest, r = .ok (p, rest) → p.length + rest.length ≤ w.length := by
  rw [recvFrameNE_eq]
  split
  next e m1 hf =>
    have ff := (recvFrame_facts encOn w m).of_eq hf
    dsimp only [Outcome]
    exact ⟨⟨np_cast ff.np, ff.err.frames, Nat.le_trans ff.alloc (Nat.add_le_add_right (Nat.le_add_right ..) _), ff.depth,
      nofun⟩, nofun⟩
  next fl p rest m1 hf =>
    have ff := (recvFrame_facts encOn w m).of_eq hf
    obtain ⟨hw, ha⟩ := ff.ok fl p rest rfl
    dsimp only [Outcome]
    exact ⟨⟨np_ok _, Nat.le_trans ff.wire (Nat.add_le_add_right (Nat.le_add_right ..) _), by simp +arith only [hw, ha],
        ff.depth,
        fun _ _ hv => by cases hv; exact ⟨Nat.le_trans (Nat.add_le_add_right ff.wire _) (by simp +arith only [hw]),
          by simp +arith only [hw, ha], hw ▸ Nat.le_add_left ..⟩⟩,
      fun _ _ hv => by cases hv; simp +arith only [hw]⟩

theorem SeqFacts.seq {α β : Type} {w rest : Bytes} {m m1 m2 : WMeter} {v : α} {r : Except Err (β × Bytes)}
    (a : SeqFacts w m (.ok (v, rest)) m1) (b : SeqFacts rest m1 r m2) : SeqFacts w m r m2 := by
  obtain ⟨a1, a2, a3⟩ := a.ok v rest rfl
  refine ⟨b.np, Nat.le_trans b.frames (Nat.add_le_add_right a1 _), Nat.le_trans b.alloc (Nat.add_le_add_right a2 _),
    by rw [b.depth, a.depth], fun v' rest' hv => ?_⟩
  obtain ⟨b1, b2, b3⟩ := b.ok v' rest' hv
  exact ⟨Nat.le_trans b1 a1, Nat.le_trans b2 a2, Nat.le_trans b3 a3⟩

theorem SeqFacts.err {α β : Type} {w : Bytes} {m m1 : WMeter} {e : Err}
    (a : SeqFacts (α := α) w m (.error e) m1) : SeqFacts (α := β) w m (.error e) m1 :=
  ⟨np_cast a.np, a.frames, a.alloc, a.depth, nofun⟩

/-- `hr`: a verdict that is a value hands on the same rest of the wire -/
theorem SeqFacts.ret {α β : Type} {w rest : Bytes} {m m1 : WMeter} {v : α} {r : Except Err (β × Bytes)}
    (a : SeqFacts w m (.ok (v, rest)) m1) (np : r ≠ .error .panic) (hr : ∀ v' rest', r = .ok (v', rest') → rest' = rest) :
    SeqFacts w m r m1 :=
  ⟨np, a.frames, a.alloc, a.depth, fun _ _ hv => hr _ _ hv ▸ a.ok v rest rfl⟩

theorem SeqFacts.refl {α : Type} (w : Bytes) (m : WMeter) (v : α) : SeqFacts w m (.ok (v, w)) m :=
  ⟨np_ok _, Nat.le_add_right_of_le (Nat.le_add_right ..), Nat.le_add_right_of_le (Nat.le_add_right ..), rfl,
    fun _ _ hv => by cases hv; exact ⟨Nat.le_refl _, Nat.le_refl _, Nat.le_refl _⟩⟩

theorem getSecretW_facts (key encOn : Bool) (w : Bytes) (m : WMeter) :
    Outcome (getSecretW key encOn w m) (SeqFacts w m) := by
  unfold getSecretW
  split
  next e m1 hf => exact ((recvFrameNE_facts _ w m).of_eq hf).1
  next p rest m1 hf => exact ((recvFrameNE_facts _ w m).of_eq hf).1.ret (np_ok _) fun _ _ hv => by cases hv; rfl

theorem fileChunks_facts (encOn : Bool) (size : Int) : ∀ (fuel total : Nat) (w : Bytes) (m : WMeter),
    Outcome (fileChunks encOn size fuel total w m) fun r m' => SeqFacts w m r m' ∧
      ∀ t rest, r = .ok (t, rest) → t + rest.length ≤ total + w.length
  | 0, total, w, m =>
    ⟨⟨np_of_ne nofun, Nat.le_add_right_of_le (Nat.le_add_right ..), Nat.le_add_right_of_le (Nat.le_add_right ..), rfl,
      nofun⟩, nofun⟩
  | fuel + 1, total, w, m => by
    unfold fileChunks
    split
    · split
      next e m1 hf => exact ⟨((recvFrameNE_facts encOn w m).of_eq hf).1.err, nofun⟩
      next p rest m1 hf =>
        obtain ⟨ff, hp⟩ := (recvFrameNE_facts encOn w m).of_eq hf
        have hp := hp p rest rfl
        obtain ⟨sf, hwr⟩ := fileChunks_facts encOn size fuel (total + p.length) rest m1
        exact ⟨ff.seq sf, fun t rest' hv => Nat.le_trans (hwr t rest' hv) (Nat.add_assoc .. ▸ Nat.add_le_add_left hp _)⟩
    · exact ⟨.refl w m total, fun _ _ hv => by cases hv; exact Nat.le_refl _⟩

/-- besides the cost: `GetFile` writes no more bytes to the file than the wire delivered -/
theorem getFile_facts (encOn : Bool) (w : Bytes) (m : WMeter) :
    Outcome (getFile encOn w m) fun r m' => SeqFacts w m r m' ∧
      ∀ t rest, r = .ok (t, rest) → t + rest.length ≤ w.length := by
  unfold getFile
  split
  next e m1 hf => exact ⟨((recvFrameNE_facts encOn w m).of_eq hf).1.err, nofun⟩
  next p rest m1 hf =>
    have f1 := ((recvFrameNE_facts encOn w m).of_eq hf).1
    have hrest := (f1.ok p rest rfl).2.2
    refine .ite (fun _ => ⟨f1.ret (np_of_ne nofun) nofun, nofun⟩) fun _ => ?_
    split
    next e m2 hc => exact ⟨f1.seq ((fileChunks_facts encOn _ _ 0 rest m1).of_eq hc).1, nofun⟩
    next total rest2 m2 hc =>
      obtain ⟨f2, hw2⟩ := (fileChunks_facts encOn _ _ 0 rest m1).of_eq hc
      have hw2 := hw2 total rest2 rfl
      split
      next e m3 hq => exact ⟨(f1.seq f2).seq ((recvFrameNE_facts encOn rest2 m2).of_eq hq).1.err, nofun⟩
      next q rest3 m3 hq =>
        have g3 := ((recvFrameNE_facts encOn rest2 m2).of_eq hq).1
        have hr3 := (g3.ok q rest3 rfl).2.2
        have f3 := (f1.seq f2).seq g3
        refine .ite (fun _ => ⟨f3.ret (np_of_ne nofun) nofun, nofun⟩) fun _ => ?_
        refine .ite (fun _ => ⟨f3.ret (np_of_ne nofun) nofun, nofun⟩) fun _ => ?_
        exact ⟨f3.ret (np_ok _) fun _ _ hv => by cases hv; rfl, fun _ _ hv => by
          cases hv; exact Nat.le_trans (Nat.add_le_add_left hr3 _) (Nat.le_trans hw2 (Nat.zero_add _ ▸ hrest))⟩

theorem readPassSock_facts (w : Bytes) : Outcome (readPassSock w) fun r a => r ≠ .error .panic ∧ a ≤ spMaxPayload := by
  unfold readPassSock
  refine .ite (fun _ => ⟨np_of_ne nofun, Nat.zero_le _⟩) fun _ => ?_
  refine .ite (fun _ => ⟨np_of_ne nofun, Nat.zero_le _⟩) fun hl => ?_
  have hle : beVal ((w.drop 1).take 4) ≤ spMaxPayload := by
    simp only [Bool.or_eq_true, decide_eq_true_eq, not_or, Nat.not_lt] at hl
    exact hl.2
  refine .ite (fun _ => ⟨np_of_ne nofun, hle⟩) fun _ => ?_
  refine .ite (fun _ => ⟨np_of_ne nofun, hle⟩) fun _ => ?_
  exact .ite (fun _ => ⟨np_of_ne nofun, hle⟩) fun _ => ⟨np_ok _, hle⟩

end Cedar.Decode
