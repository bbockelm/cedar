/-
  Readers built from string-level operations, for C13. In the counted loops of the ClassAd receivers
  every round that continues is paid for by bytes it consumed (`Law.paid`), so the count the peer
  announced bounds nothing. The entry points (ClassAd receivers, handshake records) are sequences of
  steps, composed by `EntryFacts.seq` / `.err` / `.ret`; `Linear` is what C13 reads off. The `k` of
  `EntryFacts k` counts the string-level operations that may go unpaid: those of a last round that
  fails or is rejected (at most 2, marker and secret) and the fixed ones after the loop (MyType,
  TargetType).
-/
import CedarProofs.DecodeLemmas

namespace Cedar.Decode
open Cedar

/-- `Law` with two more units of allocation potential per unconsumed byte (weights 4 on the wire and 3
    buffered, for 2 and 1). They pay for the text builder of the raw reader, which grows by `|ex| + 1 ≤
    2 * max 1 |ex|` per expression `ex`: its copy and a newline; an empty one still consumed a byte. -/
structure LawQ (s s' : St) (kc ka : Nat) : Prop where
  enc : s'.enc = s.enc
  key : s'.key = s.key
  fr : s'.m.frames + s'.nsrc = s.m.frames + s.nsrc
  sbm : s'.sb ≤ s.sb
  bys : s'.bl + s'.sb ≤ s.bl + s.sb
  ca : s'.m.calls + s'.bl + s'.sb ≤ s.m.calls + s.bl + s.sb + kc
  al : s'.m.alloc + 4 * s'.sb + 3 * s'.bl ≤ s.m.alloc + 4 * s.sb + 3 * s.bl + ka

theorem Law.toQ {s s' : St} {kc ka : Nat} (l : Law s s' kc ka) : LawQ s s' kc ka :=
  ⟨l.enc, l.key, l.fr, l.sbm, l.bys, l.ca, by have := l.bys; have := l.al; omega⟩

theorem LawQ.trans {s s1 s2 : St} {a b c d : Nat} (h1 : LawQ s s1 a b) (h2 : LawQ s1 s2 c d) :
    LawQ s s2 (a + c) (b + d) :=
  ⟨h2.enc.trans h1.enc, h2.key.trans h1.key, h2.fr.trans h1.fr, Nat.le_trans h2.sbm h1.sbm,
    Nat.le_trans h2.bys h1.bys, Nat.le_trans h2.ca (Nat.add_assoc .. ▸ Nat.add_le_add_right h1.ca c),
    Nat.le_trans h2.al (Nat.add_assoc .. ▸ Nat.add_le_add_right h1.al d)⟩

theorem LawQ.mono {s s' : St} {a b c d : Nat} (h : LawQ s s' a b) (hc : a ≤ c) (hd : b ≤ d) : LawQ s s' c d :=
  ⟨h.enc, h.key, h.fr, h.sbm, h.bys, Nat.le_trans h.ca (Nat.add_le_add_left hc _),
    Nat.le_trans h.al (Nat.add_le_add_left hd _)⟩

/-- the potential of `LawQ` is that of `Law` plus twice the unconsumed bytes: that pays for `extra`
    (text-builder growth). `p` is any lower bound on the bytes consumed that the caller can show. -/
theorem Law.paid {s s' : St} {j : Nat} (l : Law s s' j 0) (hc : s'.m.calls ≤ s.m.calls + j) (p : Nat)
    (hp : s'.bl + s'.sb + p ≤ s.bl + s.sb) (hj : j ≤ p) (extra : Nat) (he : extra ≤ 2 * p) :
    LawQ s (s'.addAlloc extra) 0 0 := by
  exact ⟨l.enc, l.key, l.fr, l.sbm, l.bys, by show s'.m.calls + s'.bl + s'.sb ≤ _; omega,
    by have := l.al; show s'.m.alloc + extra + 4 * s'.sb + 3 * s'.bl ≤ _; omega⟩

/-- In `err` and `ret` the side condition `a ≤ k` is left to `decide` at the call: it is found only
    where `a` and `k` are numerals by then; pass `h` otherwise. -/
structure EntryFacts {α : Type} (kc : Nat) (s : St) (r : Except Err α) (s' : St) : Prop where
  law : LawQ s s' kc 0
  np : r ≠ .error .panic

theorem EntryFacts.err {α β : Type} {a k : Nat} {s s' : St} {e : Err} (f : EntryFacts a s (.error e : Except Err α) s')
    (h : a ≤ k := by decide) : EntryFacts k s (.error e : Except Err β) s' :=
  ⟨f.law.mono h (Nat.le_refl _), np_cast f.np⟩

theorem EntryFacts.seq {α β : Type} {a b : Nat} {s s1 s2 : St} {v : α} {r : Except Err β}
    (f : EntryFacts a s (.ok v) s1) (g : EntryFacts b s1 r s2) : EntryFacts (a + b) s r s2 :=
  ⟨f.law.trans g.law, g.np⟩

theorem EntryFacts.ret {α β : Type} {a k : Nat} {s s1 : St} {v : α} (f : EntryFacts a s (.ok v) s1) {r : Except Err β}
    (np : r ≠ .error .panic) (h : a ≤ k := by decide) : EntryFacts k s r s1 :=
  ⟨f.law.mono h (Nat.le_refl _), np⟩

theorem EntryFacts.refl {α : Type} {k : Nat} (s : St) (v : α) : EntryFacts k s (.ok v) s :=
  ⟨(Law.refl s).toQ.mono (Nat.zero_le _) (Nat.le_refl _), np_ok _⟩

theorem EnsureFacts.entry {n : Nat} {s s' : St} {r} (f : EnsureFacts n s r s') : EntryFacts 0 s r s' := ⟨f.law.toQ, f.np⟩
theorem ReadFacts.entry {α : Type} {c : Nat} {s s' : St} {r : Except Err α} (f : ReadFacts c s r s') :
    EntryFacts 0 s r s' := ⟨f.quiet.law.toQ, f.np⟩
theorem StrFacts.entry {s s' : St} {r} (f : StrFacts s r s') : EntryFacts 1 s r s' := ⟨f.law.toQ, f.np⟩
theorem SkipFacts.entry {α : Type} {c : Nat} {s s' : St} {r : Except Err α} (f : SkipFacts c s r s') :
    EntryFacts 1 s r s' := ⟨f.law.toQ, f.np⟩
theorem AdStrFacts.entry {cap : Nat} {s s' : St} {r} (f : AdStrFacts cap s r s') : EntryFacts 1 s r s' := ⟨f.law.toQ, f.np⟩

theorem secretMarker_length : secretMarker.length = 3 := by decide

theorem rawLoop_facts : ∀ (n : Nat) (s : St) (acc : List Bytes), Outcome (rawLoop n s acc) (EntryFacts 2 s)
  | 0, s, acc => .refl s acc
  | n + 1, s, acc => by
    unfold rawLoop
    split
    next e s1 h1 => exact ((ensure_facts 1 s).of_eq h1).entry.err
    next s1 h1 =>
      have ef := (ensure_facts 1 s).of_eq h1
      split
      next e s2 h2 => exact (ef.entry.seq ((getString_facts s1).of_eq h2).1.entry).err
      next e0 s2 h2 =>
        obtain ⟨f2, p2⟩ := (getString_facts s1).of_eq h2
        have p2 := p2 (ef.okLen rfl) e0 rfl
        have c2 := f2.consumed e0 rfl
        split
        next e s3 h3 =>
          split at h3
          next hm => exact ((ef.entry.seq f2.entry).seq ((getSecret_uncapped_facts s2).of_eq h3).entry).err
          next => cases h3
        next ex s3 h3 =>
          have rl : LawQ s1 (s3.addAlloc (ex.length + 1)) 0 0 := by
            split at h3
            next hm =>
              have f3 := (getSecret_uncapped_facts s2).of_eq h3
              rw [hm, secretMarker_length] at c2
              -- marker, then secret: 2 operations and `|ex| + 1` bytes of text, against the 3 bytes
              -- of the marker and the `|ex|` of the secret
              exact (f2.law.trans f3.law).paid (Nat.le_trans f3.calls (Nat.add_le_add_right f2.calls 1)) (ex.length + 3)
                (Nat.le_trans (Nat.add_le_add_right (f3.consumed ex rfl) 3) c2) (Nat.le_add_left_of_le (by decide)) _
                (by omega)
            next =>
              cases h3
              -- 1 operation and `|e0| + 1` bytes of text, against the `|e0|` bytes of the string, and
              -- at least 1 (`p2`: the round began with a byte in the buffer) when it is empty
              exact f2.law.paid f2.calls (max 1 e0.length) (by omega) (Nat.le_max_left ..) _ (by omega)
          have f4 := rawLoop_facts n (s3.addAlloc (ex.length + 1)) ((ex ++ [10]) :: acc)
          exact ⟨(ef.law.toQ.trans rl).trans f4.law, f4.np⟩

theorem skipLoop_facts : ∀ (n : Nat) (s : St),
    Outcome (skipLoop n s) fun r s' => EntryFacts 1 s r s' ∧ CapLaw 8 s s'
  | 0, s => ⟨.refl s (), .refl _ _⟩
  | n + 1, s => by
    unfold skipLoop
    split
    next e s1 h1 =>
      have ef := (ensure_facts 1 s).of_eq h1
      exact ⟨ef.entry.err, ef.capLaw.mono (by decide)⟩
    next s1 h1 =>
      have ef := (ensure_facts 1 s).of_eq h1
      have cp1 : CapLaw 8 s s1 := ef.capLaw.mono (by decide)
      split
      next e s2 h2 =>
        have f2 := ((skipStringIs_facts secretMarker s1).of_eq h2).1
        exact ⟨(ef.entry.seq f2.entry).err, cp1.trans (f2.cap.mono (by decide))⟩
      next isMarker s2 h2 =>
        obtain ⟨f2, p2, t2⟩ := (skipStringIs_facts secretMarker s1).of_eq h2
        have cp2 : CapLaw 8 s s2 := cp1.trans (f2.cap.mono (by decide))
        have p2 := p2 (ef.okLen rfl) isMarker rfl
        split
        next hm =>
          rw [hm, secretMarker_length] at t2
          have t2 := t2 rfl
          -- marker, then secret: 2 operations, against 2 of the marker's 3 bytes
          have round : ∀ {r3 s3}, skipSecret s2 = (r3, s3) → EntryFacts 0 s r3 s3 ∧ CapLaw 8 s s3 := by
            intro r3 s3 h3
            have f3 := (skipSecret_facts s2).of_eq h3
            have l3 := (f2.law.trans f3.law).paid (Nat.le_trans f3.calls (Nat.add_le_add_right f2.calls 1)) 2
              (Nat.le_trans (Nat.add_le_add f3.law.bys (by decide)) t2) (Nat.le_refl _) 0 (Nat.zero_le _)
            exact ⟨⟨ef.law.toQ.trans l3, f3.np⟩, cp2.trans f3.cap⟩
          split
          next e s3 h3 => exact ⟨(round h3).1.err, (round h3).2⟩
          next s3 h3 =>
            obtain ⟨f4, c4⟩ := skipLoop_facts n s3
            exact ⟨(round h3).1.seq f4, (round h3).2.trans c4⟩
        next =>
          -- 1 operation, against the 1 byte of `p2` (the round began with a byte in the buffer)
          obtain ⟨f4, c4⟩ := skipLoop_facts n s2
          exact ⟨⟨(ef.law.toQ.trans (f2.law.paid f2.calls 1 p2 (Nat.le_refl _) 0 (Nat.zero_le _))).trans f4.law, f4.np⟩,
            cp2.trans c4⟩

theorem exprOK_length {pfail : Option Nat} {i : Nat} {e : Bytes} (h : exprOK pfail i e = true) : 1 ≤ e.length := by
  cases e with
  | nil => simp [exprOK] at h
  | cons a t => exact Nat.le_add_left 1 _

theorem adLoop_facts (cap : Nat) (pfail : Option Nat) : ∀ (n i total : Nat) (s : St),
    Outcome (adLoop cap pfail n i total s) fun r s' => EntryFacts 2 s r s' ∧ (0 < cap → CapLaw (max cap 8) s s')
  | 0, i, total, s => ⟨.refl s total, fun _ => .refl _ _⟩
  | n + 1, i, total, s => by
    unfold adLoop
    split
    next e s1 h1 =>
      have f1 := (adString_facts cap total s).of_eq h1
      exact ⟨f1.entry.err, f1.capLaw⟩
    next e0 t1 s1 h1 =>
      have f1 := (adString_facts cap total s).of_eq h1
      have c1 := f1.consumed e0 t1 rfl
      split
      next e s2 h2 =>
        split at h2
        next hm =>
          have f2 := (adSecret_facts cap t1 s1).of_eq h2
          exact ⟨(f1.entry.seq f2.entry).err, fun hc => (f1.capLaw hc).trans (f2.capLaw hc)⟩
        next => cases h2
      next ex t2 s2 h2 =>
        -- the expression read, with or without a marker in front, paid for itself if it is accepted
        have round : (exprOK pfail i ex = true → LawQ s s2 0 0) ∧ LawQ s s2 2 0 ∧
            (0 < cap → CapLaw (max cap 8) s s2) := by
          split at h2
          next hm =>
            have f2 := (adSecret_facts cap t1 s1).of_eq h2
            rw [hm, secretMarker_length] at c1
            -- marker, then secret: 2 operations, against the marker's 3 bytes
            exact ⟨fun _ => (f1.law.trans f2.law).paid (Nat.le_trans f2.calls (Nat.add_le_add_right f1.calls 1)) 3
                (Nat.le_trans (Nat.add_le_add_right f2.law.bys 3) c1) (by decide) 0 (Nat.zero_le _),
              f1.law.toQ.trans f2.law.toQ, fun hc => (f1.capLaw hc).trans (f2.capLaw hc)⟩
          next =>
            cases h2
            -- 1 operation, against 1 byte of the expression: an accepted one contains '='
            exact ⟨fun hok => f1.law.paid f1.calls 1 (Nat.le_trans (Nat.add_le_add_left (exprOK_length hok) _) c1)
                (Nat.le_refl _) 0 (Nat.zero_le _),
              f1.law.toQ.mono (by decide) (Nat.le_refl _), f1.capLaw⟩
        split
        next hok =>
          obtain ⟨f4, c4⟩ := adLoop_facts cap pfail n (i + 1) t2 s2
          exact ⟨⟨(round.1 hok).trans f4.law, f4.np⟩, fun hc => (round.2.2 hc).trans (c4 hc)⟩
        next => exact ⟨⟨round.2.1, np_of_ne nofun⟩, round.2.2⟩

theorem rawType_facts (name : Bytes) (s : St) : Outcome (rawType name s) (EntryFacts 1 s) := by
  unfold rawType
  split
  next e s1 h => exact ((getString_facts s).of_eq h).1.entry.err
  next t s1 h =>
    have f := ((getString_facts s).of_eq h).1.entry
    refine .ite (fun _ => f.ret (np_ok _)) fun _ => ?_
    exact .ite (fun _ => f.ret (np_of_ne nofun)) fun _ => f.ret (np_ok _)

theorem rawBody_facts (n : Int) (s : St) : Outcome (rawBody n s) (EntryFacts 4 s) := by
  unfold rawBody
  split
  next e s1 h1 => exact ((rawLoop_facts _ s []).of_eq h1).err
  next acc s1 h1 =>
    have f1 := (rawLoop_facts _ s []).of_eq h1
    split
    next e s2 h2 => exact (f1.seq ((rawType_facts _ s1).of_eq h2)).err
    next l1 s2 h2 =>
      have f2 := f1.seq ((rawType_facts _ s1).of_eq h2)
      split
      next e s3 h3 => exact (f2.seq ((rawType_facts _ s2).of_eq h3)).err
      next l2 s3 h3 => exact (f2.seq ((rawType_facts _ s2).of_eq h3)).ret (np_ok _)

theorem getClassAdRaw_facts (s : St) : Outcome (getClassAdRaw s) (EntryFacts 4 s) := by
  unfold getClassAdRaw
  split
  next e s1 h => exact ((getInt_facts s).of_eq h).entry.err
  next n s1 h => exact ((getInt_facts s).of_eq h).entry.seq (rawBody_facts n s1)

theorem skipClassAdRaw_facts (s : St) :
    Outcome (skipClassAdRaw s) fun r s' => EntryFacts 3 s r s' ∧ CapLaw 8 s s' := by
  unfold skipClassAdRaw
  split
  next e s1 h1 => exact ⟨((getInt_facts s).of_eq h1).entry.err, ((getInt_facts s).of_eq h1).quiet.cap⟩
  next n s1 h1 =>
    have f1 := (getInt_facts s).of_eq h1
    split
    next e s2 h2 =>
      obtain ⟨f2, c2⟩ := (skipLoop_facts n.toNat s1).of_eq h2
      exact ⟨(f1.entry.seq f2).err, f1.quiet.cap.trans c2⟩
    next s2 h2 =>
      obtain ⟨f2, c2⟩ := (skipLoop_facts n.toNat s1).of_eq h2
      split
      next e s3 h3 =>
        have f3 := (skipString_facts s2).of_eq h3
        exact ⟨((f1.entry.seq f2).seq f3.entry).err, (f1.quiet.cap.trans c2).trans f3.cap⟩
      next s3 h3 =>
        have f3 := (skipString_facts s2).of_eq h3
        have f4 := skipString_facts s3
        exact ⟨((f1.entry.seq f2).seq f3.entry).seq f4.entry, ((f1.quiet.cap.trans c2).trans f3.cap).trans f4.cap⟩

theorem getClassAd_facts (cap : Nat) (pfail : Option Nat) (s : St) :
    Outcome (getClassAd cap pfail s) fun r s' => EntryFacts 4 s r s' ∧ (0 < cap → CapLaw (max cap 8) s s') := by
  unfold getClassAd
  split
  next e s1 h1 =>
    have f1 := (getInt_facts s).of_eq h1
    exact ⟨f1.entry.err, fun _ => f1.quiet.cap.mono (Nat.le_max_right _ _)⟩
  next n s1 h1 =>
    have f1 := (getInt_facts s).of_eq h1
    have c1 : CapLaw (max cap 8) s s1 := f1.quiet.cap.mono (Nat.le_max_right _ _)
    split
    next e s2 h2 =>
      obtain ⟨f2, c2⟩ := (adLoop_facts cap pfail n.toNat 0 0 s1).of_eq h2
      exact ⟨(f1.entry.seq f2).err, fun hc => c1.trans (c2 hc)⟩
    next t2 s2 h2 =>
      obtain ⟨f2, c2⟩ := (adLoop_facts cap pfail n.toNat 0 0 s1).of_eq h2
      split
      next e s3 h3 =>
        have f3 := (adString_facts cap t2 s2).of_eq h3
        exact ⟨((f1.entry.seq f2).seq f3.entry).err, fun hc => (c1.trans (c2 hc)).trans (f3.capLaw hc)⟩
      next v3 t3 s3 h3 =>
        have f3 := (adString_facts cap t2 s2).of_eq h3
        have c3 (hc : 0 < cap) := (c1.trans (c2 hc)).trans (f3.capLaw hc)
        split
        next e s4 h4 =>
          have f4 := (adString_facts cap t3 s3).of_eq h4
          exact ⟨(((f1.entry.seq f2).seq f3.entry).seq f4.entry).err, fun hc => (c3 hc).trans (f4.capLaw hc)⟩
        next s4 h4 =>
          have f4 := (adString_facts cap t3 s3).of_eq h4
          exact ⟨(((f1.entry.seq f2).seq f3.entry).seq f4.entry).ret (np_ok _), fun hc => (c3 hc).trans (f4.capLaw hc)⟩

theorem tlsRecv_facts (s : St) : Outcome (tlsRecv s) (EntryFacts 0 s) := by
  unfold tlsRecv
  split
  next e s1 h1 => exact ((getInt_facts s).of_eq h1).entry.err
  next _ s1 h1 =>
    have f1 := ((getInt_facts s).of_eq h1).entry
    split
    next e s2 h2 => exact (f1.seq ((getInt_facts s1).of_eq h2).entry).err
    next len s2 h2 =>
      have f2 := f1.seq ((getInt_facts s1).of_eq h2).entry
      exact .ite (fun _ => f2.ret (np_of_ne nofun)) fun _ => f2.seq (getBytes_facts len s2).entry

/-- the model transcribes `kerberosReadRequest` and `receiveMessage` separately; both are two
    integers, then `GetBytes` of the second -/
theorem krbRead_eq (s : St) : krbRead s = tlsRecv s := rfl

theorem rawField_facts (s : St) : Outcome (rawField s) (EntryFacts 0 s) := by
  unfold rawField
  split
  next e s1 h1 => exact ((getInt_facts s).of_eq h1).entry.err
  next len s1 h1 =>
    have f1 := ((getInt_facts s).of_eq h1).entry
    refine .ite (fun _ => ?_) fun _ => f1.ret (np_ok _)
    split
    next e s2 h2 => exact (f1.seq ((getBytes_facts len s1).of_eq h2).entry).err
    next _ s2 h2 => exact (f1.seq ((getBytes_facts len s1).of_eq h2).entry).ret (np_ok _)

theorem skipInts_facts : ∀ (n : Nat) (s : St), Outcome (skipInts n s) (EntryFacts 0 s)
  | 0, s => .refl s ()
  | n + 1, s => by
    unfold skipInts
    split
    next e s1 h1 => exact ((getInt_facts s).of_eq h1).entry.err
    next _ s1 h1 => exact ((getInt_facts s).of_eq h1).entry.seq (skipInts_facts n s1)

theorem exchangeKey_facts (s : St) : Outcome (exchangeKey s) (EntryFacts 0 s) := by
  unfold exchangeKey
  split
  next e s1 h1 => exact ((getInt_facts s).of_eq h1).entry.err
  next hasKey s1 h1 =>
    have f1 := ((getInt_facts s).of_eq h1).entry
    refine .ite (fun _ => f1.ret (np_ok _)) fun _ => ?_
    split
    next e s2 h2 => exact (f1.seq ((skipInts_facts 3 s1).of_eq h2)).err
    next s2 h2 =>
      have f2 := f1.seq ((skipInts_facts 3 s1).of_eq h2)
      split
      next e s3 h3 => exact (f2.seq ((getInt_facts s2).of_eq h3).entry).err
      next len s3 h3 =>
        have f3 := f2.seq ((getInt_facts s2).of_eq h3).entry
        refine .ite (fun _ => f3.ret (np_of_ne nofun)) fun _ => ?_
        split
        next e s4 h4 => exact (f3.seq ((getBytes_facts len s3).of_eq h4).entry).err
        next _ s4 h4 => exact (f3.seq ((getBytes_facts len s3).of_eq h4).entry).ret (np_ok _)

theorem getIDString_facts (s : St) :
    Outcome (getIDString s) fun r s' => EntryFacts 1 s r s' ∧ CapLaw (max maxNameLen 8) s s' ∧
      (∀ v, r = .ok v → v.length ≤ maxNameLen) := by
  unfold getIDString
  split
  next e s1 h1 =>
    have f1 := (getInt_facts s).of_eq h1
    exact ⟨f1.entry.err, f1.quiet.cap.mono (Nat.le_max_right _ _), nofun⟩
  next expected s1 h1 =>
    have f1 := (getInt_facts s).of_eq h1
    have c1 : CapLaw (max maxNameLen 8) s s1 := f1.quiet.cap.mono (Nat.le_max_right _ _)
    refine .ite (fun _ => ⟨f1.entry.ret (np_of_ne nofun), c1, nofun⟩) fun _ => ?_
    split
    next e s2 h2 =>
      have f2 := (getStringMax_facts maxNameLen s1).of_eq h2
      exact ⟨(f1.entry.seq f2.str.entry).err, c1.trans f2.capLaw, nofun⟩
    next v s2 h2 =>
      have f2 := (getStringMax_facts maxNameLen s1).of_eq h2
      have f := f1.entry.seq f2.str.entry
      exact .ite (fun _ => ⟨f.ret (np_ok _), c1.trans f2.capLaw, fun w hw => by cases hw; exact f2.resLen v rfl⟩)
        fun _ => ⟨f.ret (np_of_ne nofun), c1.trans f2.capLaw, nofun⟩

theorem LawQ.bounds {s s' : St} {kc ka : Nat} (l : LawQ s s' kc ka) :
    s'.m.frames ≤ s.m.frames + s.nsrc ∧
    s'.m.calls ≤ s.m.calls + s.bytes + kc ∧
    s'.m.alloc ≤ s.m.alloc + 4 * s.bytes + ka := by
  exact ⟨Nat.le.intro l.fr, Nat.add_assoc s.m.calls .. ▸ Nat.le_of_add_right_le (Nat.le_of_add_right_le l.ca),
    by have := l.al; have := bytes_eq s; omega⟩

/-- what "linear in the input" means for an operation from `s` to `s'`. Four units per unconsumed
    byte: 1 buffer append, 1 copy out of the buffer (`Law.al`), 2 text builder of the raw reader (`LawQ`). -/
def Linear (k : Nat) (s s' : St) : Prop :=
  s'.m.frames ≤ s.m.frames + s.nsrc ∧
  s'.m.calls ≤ s.m.calls + s.bytes + k ∧
  s'.m.alloc ≤ s.m.alloc + 4 * s.bytes

theorem EntryFacts.linear {α : Type} {k : Nat} {s s' : St} {r : Except Err α} (f : EntryFacts k s r s') : Linear k s s' :=
  f.law.bounds

end Cedar.Decode
