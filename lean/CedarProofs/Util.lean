/-
  Facts that proofs over several models share: guards `if bad then fail else …` peeled off a
  hypothesis, what is never `.ok`, lookups in an association list that deletes a key with `filter`
  (`lookup_erase`, `lookup_insert`; for the filter spelled `kv.1 != n` the same is `Claim.lookup_set` in ClaimInfo),
  and a few facts about lists that core does not have.
-/

namespace Cedar

/-- `replace h := ite_else_of_ne h nofun` peels one `if bad then .error e else …` off `h`
    without `split`, which on the long guard chains of the model re-elaborates the whole chain. -/
theorem ite_else_of_ne {α : Type} {c : Prop} [Decidable c] {a x b : α}
    (h : (if c then a else x) = b) (hab : a ≠ b) : ¬c ∧ x = b := by
  by_cases hc : c
  · rw [if_pos hc] at h; exact absurd h hab
  · rw [if_neg hc] at h; exact ⟨hc, h⟩

theorem ite_then_of_ne {α : Type} {c : Prop} [Decidable c] {a x b : α}
    (h : (if c then x else a) = b) (hab : a ≠ b) : c ∧ x = b := by
  by_cases hc : c
  · rw [if_pos hc] at h; exact ⟨hc, h⟩
  · rw [if_neg hc] at h; exact absurd h hab

theorem ite_error_eq_ok {ε α : Type} {P : Prop} [Decidable P] {e : ε} {x : Except ε α} {b : α} :
    (if P then .error e else x) = .ok b ↔ ¬P ∧ x = .ok b :=
  ⟨fun h => ite_else_of_ne h nofun, fun h => by rw [if_neg h.1]; exact h.2⟩

theorem fst_ite_none {ε β : Type} {c : Prop} [Decidable c] {e : ε} {r : β} {y : Option ε × β} :
    (if c then (some e, r) else y).1 = none ↔ ¬c ∧ y.1 = none := by
  split <;> simp [*]

theorem lookup_filter_key {α β : Type} [BEq α] [LawfulBEq α] (q : α → Bool) (k : α) :
    ∀ l : List (α × β), (l.filter (fun kv => q kv.1)).lookup k = if q k then l.lookup k else none
  | [] => by simp
  | (a, v) :: l => by
    have ih := lookup_filter_key q k l
    by_cases hk : k = a
    · subst hk
      by_cases hq : q k <;> simp [hq, ih]
    · have : (k == a) = false := by simpa using hk
      by_cases hq : q a <;> simp [List.lookup_cons, hq, ih, this]

/-- the filter written as `Invalidate`, `Store` and `MapCommand` write it -/
theorem lookup_erase {α β : Type} [BEq α] [LawfulBEq α] [DecidableEq α] (l : List (α × β)) (k k' : α) :
    (l.filter (fun p => decide (p.1 ≠ k))).lookup k' = if k' = k then none else l.lookup k' := by
  rw [lookup_filter_key (fun a => decide (a ≠ k))]
  by_cases h : k' = k <;> simp [h]

theorem lookup_insert {α β : Type} [BEq α] [LawfulBEq α] [DecidableEq α] (l : List (α × β)) (k k' : α) (v : β) :
    ((k, v) :: l.filter (fun p => decide (p.1 ≠ k))).lookup k' = if k' = k then some v else l.lookup k' := by
  rw [List.lookup_cons, lookup_erase]
  by_cases h : k' = k
  · simp [h]
  · simp [h, beq_eq_false_iff_ne.mpr h]

theorem lookup_mem {α β : Type} [BEq α] [LawfulBEq α] {l : List (α × β)} {k : α} {v : β}
    (h : l.lookup k = some v) : (k, v) ∈ l := by
  obtain ⟨l₁, l₂, rfl, _⟩ := List.lookup_eq_some_iff.mp h
  simp

theorem lookup_of_mem {α β : Type} [BEq α] [LawfulBEq α] {l : List (α × β)} {k : α} {v : β}
    (hn : (l.map (·.1)).Nodup) (h : (k, v) ∈ l) : l.lookup k = some v := by
  obtain ⟨s, t, rfl⟩ := List.append_of_mem h
  rw [List.map_append, List.map_cons] at hn
  exact List.lookup_eq_some_iff.mpr ⟨s, t, rfl, fun p hp =>
    bne_iff_ne.mpr ((List.nodup_append.mp hn).2.2 p.1 (List.mem_map_of_mem hp) k List.mem_cons_self).symm⟩

theorem except_error_of_not_ok {ε α : Type} (x : Except ε α) (h : ∀ a, x ≠ .ok a) : ∃ e, x = .error e := by
  cases x with
  | error e => exact ⟨e, rfl⟩
  | ok a => exact absurd rfl (h a)

theorem filter_of_filter {α : Type} {p q : α → Bool} (h : ∀ a, p a = true → q a = true) (l : List α) :
    (l.filter q).filter p = l.filter p := by
  rw [List.filter_filter]
  exact List.filter_congr fun a _ => by cases hp : p a <;> simp [h a, hp]

theorem lt_snoc {α : Type} {l : List α} {g : α} {j : Nat} :
    j < (l ++ [g]).length ↔ j < l.length ∨ j = l.length := by
  rw [List.length_append, List.length_singleton, Nat.lt_succ_iff_lt_or_eq]

theorem getElem?_snoc_eq_some {α : Type} {l : List α} {x y : α} {a : Nat} :
    (l ++ [x])[a]? = some y ↔ l[a]? = some y ∨ (a = l.length ∧ x = y) := by
  induction l generalizing a with
  | nil => cases a <;> simp
  | cons z l ih => cases a <;> simp [ih]

theorem dropWhile_id {α : Type} {p : α → Bool} : ∀ {s : List α}, s.head?.any p = false → s.dropWhile p = s
  | [], _ => rfl
  | b :: t, h => by simp_all [List.dropWhile]

end Cedar
