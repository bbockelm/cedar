/-
  For C11 (Token model), around `Ok`, a run that ends without failure. Each receive step, the token
  validation and each half of the two roles is characterised once as "ends with no error stored ⇔
  what was read passes these checks" (`…_noErr_iff`; `…_ok_iff`, `…_accept_iff` where the outcome is
  a value), with the rest of the run as a parameter `Q`, so that the characterisations compose by
  rewriting. For what holds after `runStep X`: `have h := X_noErr_iff … fun s' => <fact about s'>`,
  then `rw [← runStep_noErr_iff] at h` (as `srvPhase2_accept_iff`, `cliPhase2_accept_iff` do).
-/
import CedarProofs.TokenSpec
import CedarProofs.Util

namespace Cedar.Token
open Cedar

@[simp] theorem Act.bind_eq {α β : Type} (x : Act α) (f : α → Act β) : (x >>= f) = Act.andThen x f := rfl
@[simp] theorem Act.pure_eq {α : Type} (a : α) : (pure a : Act α) = Act.ret a := rfl
@[simp] theorem Rd.bind_eq {α β : Type} (x : Rd α) (f : α → Rd β) : (x >>= f) = Rd.andThen x f := rfl
@[simp] theorem Rd.pure_eq {α : Type} (a : α) : (pure a : Rd α) = Rd.ret a := rfl

/-- `Ok res P`: the run ended without failure, and `P` holds of its result and final state. The receive steps check
    each field as soon as it is read, the specification readers `Rd.m1 … Rd.m3` read a whole message first; written as
    nested `Ok`, the two differ only in where the checks stand, and `ok_and_left` moves every check as far out as its
    variables allow. -/
def Ok {ε σ α : Type} (res : Except (ε × σ) (α × σ)) (P : α → σ → Prop) : Prop :=
  match res with
  | .ok (a, s) => P a s
  | .error _ => False

theorem ok_iff {ε σ α : Type} (res : Except (ε × σ) (α × σ)) (P : α → σ → Prop) :
    Ok res P ↔ ∃ a s, res = .ok (a, s) ∧ P a s := by
  unfold Ok
  cases res with
  | error e => simp
  | ok r => exact ⟨fun h => ⟨_, _, rfl, h⟩, fun ⟨_, _, h, hp⟩ => by cases h; exact hp⟩

@[simp] theorem ok_and_left {ε σ α : Type} (res : Except (ε × σ) (α × σ)) (p : Prop) (P : α → σ → Prop) :
    Ok res (fun a s => p ∧ P a s) ↔ p ∧ Ok res P := by
  unfold Ok
  cases res <;> simp

/-- In the `…_noErr_iff` lemmas `s.err = none` is found at the end of the run and has to reach the
    front; the length check `q` of a field just read stands in its way, and `ok_and_left` alone
    stops there. -/
@[simp] theorem ok_and_left' {ε σ α : Type} (res : Except (ε × σ) (α × σ)) (p : Prop) (q P : α → σ → Prop) :
    Ok res (fun a s => q a s ∧ p ∧ P a s) ↔ p ∧ Ok res fun a s => q a s ∧ P a s := by
  simp only [← ok_and_left, and_left_comm]

/- `↓` on the four lemmas whose argument holds the rest of the program (continuation, branches, lifted
   reader): rewritten top-down, the rest is simplified once, when it is reached; bottom-up, `simp` would
   normalise it again at every level, under fresh binders each time. -/
@[simp ↓] theorem Act.ok_andThen {α β : Type} (x : Act α) (f : α → Act β) (s : AuthData) (P : β → AuthData → Prop) :
    Ok (Act.andThen x f s) P ↔ Ok (x s) fun a s1 => Ok (f a s1) P := by
  unfold Ok Act.andThen
  cases x s <;> exact Iff.rfl
@[simp ↓] theorem Rd.ok_andThen {α β : Type} (x : Rd α) (f : α → Rd β) (d : Dec) (P : β → Dec → Prop) :
    Ok (Rd.andThen x f d) P ↔ Ok (x d) fun a d1 => Ok (f a d1) P := by
  unfold Ok Rd.andThen
  cases x d <;> exact Iff.rfl
@[simp] theorem Act.ok_ret {α : Type} (a : α) (s : AuthData) (P : α → AuthData → Prop) : Ok (Act.ret a s) P ↔ P a s := Iff.rfl
@[simp] theorem Rd.ok_ret {α : Type} (a : α) (d : Dec) (P : α → Dec → Prop) : Ok (Rd.ret a d) P ↔ P a d := Iff.rfl
@[simp] theorem Act.ok_fail {α : Type} (e : TErr) (s : AuthData) (P : α → AuthData → Prop) : Ok (Act.fail e s) P ↔ False := Iff.rfl
@[simp] theorem Act.ok_getS (s : AuthData) (P : AuthData → AuthData → Prop) : Ok (Act.getS s) P ↔ P s s := Iff.rfl
@[simp] theorem Act.ok_modS (f : AuthData → AuthData) (s : AuthData) (P : Unit → AuthData → Prop) :
    Ok (Act.modS f s) P ↔ P () (f s) := Iff.rfl
@[simp ↓] theorem Act.ok_ite {α : Type} (c : Prop) [Decidable c] (x y : Act α) (s : AuthData) (P : α → AuthData → Prop) :
    Ok ((if c then x else y) s) P ↔ (c ∧ Ok (x s) P) ∨ (¬ c ∧ Ok (y s) P) := by
  by_cases h : c <;> simp [h]
@[simp ↓] theorem ok_lift {α : Type} (r : Rd α) (s : AuthData) (P : α → AuthData → Prop) :
    Ok (lift r s) P ↔ Ok (r s.msg) fun a d => P a { s with msg := d } := by
  unfold Ok lift
  cases r s.msg <;> exact Iff.rfl

-- scoped: under `open Cedar.Token` the `ok_*` rules run a step of the model in any file
attribute [scoped simp] failAuth newMessage rdInt rdBytes rdIDString rdToken checkEOM skipField

@[simp] theorem Rd.fail_ok {α : Type} (e : TErr) (d : Dec) (r : α × Dec) : (Rd.fail e : Rd α) d = .ok r ↔ False :=
  ⟨nofun, nofun⟩
theorem Rd.ite_ok {α : Type} (c : Prop) [Decidable c] (x y : Rd α) (d : Dec) (r : α × Dec) :
    (if c then x else y) d = .ok r ↔ (c ∧ x d = .ok r) ∨ (¬ c ∧ y d = .ok r) := by
  by_cases h : c <;> simp [h]

theorem store_err_ne (s : AuthData) (r : Rej) : (s.store r).err ≠ none := by
  unfold AuthData.store
  cases h : s.err <;> simp [h]

theorem store_err_of_none (s : AuthData) (r : Rej) (h : s.err = none) : s.store r = { s with err := some r } := by
  unfold AuthData.store; rw [h]

theorem lift_ok_err {α : Type} (r : Rd α) (s s' : AuthData) (a : α) (h : lift r s = .ok (a, s')) : s'.err = s.err := by
  unfold lift at h
  split at h <;> cases h
  rfl

/-- Two checks of the word just read (not `AUTH_PW_ERROR`, then `AUTH_PW_A_OK`) would stop
    `ok_and_left'`, which passes one. -/
@[simp] theorem status_ok (st : Int) (R : Prop) : ¬ st = authError ∧ st = authOK ∧ R ↔ st = authOK ∧ R :=
  ⟨And.right, fun h => ⟨h.1 ▸ by decide, h⟩⟩

theorem srvRecv1_noErr_iff (s : AuthData) (Q : AuthData → Prop) :
    Ok (srvRecv1 s) (fun _ s' => s'.err = none ∧ Q s') ↔
    s.err = none ∧ Ok (Rd.m1 s.msg) fun w d => w.status = authOK ∧ w.raLen ≤ (keyLen : Int) ∧
      Q { s with clientID := w.id, token := w.token, ra := w.ra, msg := d } := by
  unfold srvRecv1 srvRecv1Err srvRecv1OK Rd.m1
  -- `and_self`, `and_self_left` off: never used, and tried on each of the several hundred conjunctions
  -- that arise, comparing its two sides up to the unfolding of instances
  simp [store_err_ne, -and_self, -and_self_left]

theorem srvRecv3_noErr_iff (env : Env) (s : AuthData) (Q : AuthData → Prop) :
    Ok (srvRecv3 env s) (fun _ s' => s'.err = none ∧ Q s') ↔
    s.err = none ∧ Ok (Rd.m3 s.msg) fun w d => w.status = authOK ∧ w.id = s.clientID ∧ w.rbLen ≤ (keyLen : Int) ∧
      w.rb = s.rb ∧ env.macOf w.mac = .hmac s.key (macMsg3 s.clientID s.rb) ∧ Q { s with msg := d } := by
  unfold srvRecv3 srvRecv3Err srvRecv3OK Rd.m3
  simp [store_err_ne, -and_self, -and_self_left]

theorem cliRecv2_noErr_iff (env : Env) (s : AuthData) (Q : AuthData → Prop) :
    Ok (cliRecv2 env s) (fun _ s' => s'.err = none ∧ Q s') ↔
    s.err = none ∧ Ok (Rd.m2 s.msg) fun w d => w.status = authOK ∧ w.id = s.clientID ∧ w.raLen ≤ (keyLen : Int) ∧
      w.ra = s.ra ∧ w.rbLen ≤ (keyLen : Int) ∧ env.macOf w.mac = .hmac s.key (macMsg2 s.clientID w.sid s.ra w.rb) ∧
      Q { s with serverID := w.sid, rb := w.rb, msg := d } := by
  unfold cliRecv2 cliRecv2Err cliRecv2OK Rd.m2
  simp [store_err_ne, -and_self, -and_self_left]

/-- a time claim passes: absent, or a number satisfying `p`; never a non-number -/
def NumV.Holds (p : Int → Prop) : NumV → Prop
  | .bad => False
  | .num v => p v
  | .absent => True

theorem NumV.Holds.imp {p q : Int → Prop} (h : ∀ v, p v → q v) : ∀ {x : NumV}, x.Holds p → x.Holds q
  | .num v, hx => h v hx
  | .absent, _ => trivial

theorem timeValid_iff (now ma : Int) (c : Claims) :
    TimeValid now ma c ↔
    c.exp.Holds (now < ·) ∧ c.iat.Holds (fun i => ¬ (ma > 0 ∧ i < now - ma)) ∧ c.nbf.Holds (· ≤ now) :=
  Iff.rfl

/-- one stage of `validateTokenTiming` -/
def claimStep (x : NumV) (refuse : Int → Prop) [DecidablePred refuse] (r : Rej) (next : Except Rej Unit) :
    Except Rej Unit :=
  match x with
  | .bad => .error .badTime
  | .num v => if refuse v then .error r else next
  | .absent => next

theorem checkTiming_eq (now ma : Int) (c : Claims) : checkTiming now ma c =
    claimStep c.exp (now ≥ ·) .expired (claimStep c.iat (fun i => ma > 0 ∧ i < now - ma) .tooOld
      (claimStep c.nbf (now < ·) .notYet (.ok ()))) := rfl

theorem claimStep_eq_iff (x : NumV) (refuse : Int → Prop) [DecidablePred refuse] (r : Rej)
    (next res : Except Rej Unit) :
    claimStep x refuse r next = res ↔
    (x = .bad ∧ res = .error .badTime) ∨ (∃ v, x = .num v ∧ refuse v ∧ res = .error r) ∨
      (x.Holds (¬ refuse ·) ∧ next = res) := by
  cases x with
  | bad => simp [claimStep, NumV.Holds, eq_comm]
  | absent => simp [claimStep, NumV.Holds]
  | num v =>
    by_cases hr : refuse v
    · simp [claimStep, NumV.Holds, hr, eq_comm]
    · simp [claimStep, NumV.Holds, hr]

theorem checkTiming_ok_iff (now ma : Int) (c : Claims) : checkTiming now ma c = .ok () ↔ TimeValid now ma c := by
  simp [checkTiming_eq, timeValid_iff, claimStep_eq_iff]

/-! The stages that `checkTokenPre` and `verifyIDToken` share, inverted, and (`seg_of_act_ok`) a
decoding stage of `loadToken`, which runs in `Act`. Lean compiles the `match` in each statement to a
matcher constant of its own; `rw` and `simp` do not identify it with the model's, and the unifier
unfolds matchers only with `smartUnfolding` off, so that is how the users apply these lemmas. -/

theorem seg_of_stage_ok {α β : Type} {x : Seg α} {e : Rej} {f : α → Except Rej β} {b : β}
    (h : (match x with
      | .undefined => .error .undefinedSeg
      | .b64err => .error e
      | .jsonerr => .error e
      | .ok a => f a : Except Rej β) = .ok b) : ∃ a, x = .ok a ∧ f a = .ok b := by
  cases x with
  | ok a => exact ⟨a, rfl, h⟩
  | _ => cases h

theorem key_of_stage_ok {α β ε : Type} {o : Option α} {e : ε} {f : α → Except ε β} {b : β}
    (h : (match o with | none => .error e | some a => f a : Except ε β) = .ok b) : ∃ a, o = some a ∧ f a = .ok b := by
  cases o with
  | some a => exact ⟨a, rfl, h⟩
  | none => cases h

theorem seg_of_act_ok {α β : Type} {x : Seg α} {r : Rej} {f : α → Act β} {s : AuthData} {P : β → AuthData → Prop}
    (h : Ok ((match x with | .ok a => f a | _ => failAuth r : Act β) s) P) : ∃ a, x = .ok a ∧ Ok (f a s) P := by
  cases x with
  | ok a => exact ⟨a, rfl, h⟩
  | _ => cases h

theorem timing_of_stage_ok {β : Type} {now ma : Int} {c : Claims} {k : Except Rej β} {b : β}
    (h : (match checkTiming now ma c with | .error r => .error r | .ok _ => k : Except Rej β) = .ok b) :
    TimeValid now ma c ∧ k = .ok b := by
  cases ht : checkTiming now ma c with
  | ok _ => rw [ht] at h; exact ⟨(checkTiming_ok_iff ..).mp ht, h⟩
  | error r => rw [ht] at h; cases h

theorem checkTokenPre_ok_iff (P : SrvCfg) (env : Env) (now : Int) (tok key : Bytes) (c : Claims) :
    checkTokenPre P env now tok = .ok (key, c) ↔ ValidToken P env now tok key c := by
  unfold checkTokenPre ValidToken
  constructor
  · intro h
    obtain ⟨-, h⟩ := ite_else_of_ne h nofun
    split at h
    next hh pp hsplit =>
      -- the header stage of the exchange also refuses a `kid` that is no string: four refusing alternatives
      split at h
      iterate 4 cases h
      next kidv hnon hhdr =>
        set_option smartUnfolding false in
        obtain ⟨key', hkey, h⟩ := key_of_stage_ok h
        obtain ⟨c', hc, h⟩ := seg_of_stage_ok h
        obtain ⟨htime, h⟩ := timing_of_stage_ok h
        cases h
        exact ⟨hh, pp, kidv, hsplit, hhdr, hnon, hkey, hc, htime⟩
    next => cases h
  · rintro ⟨hh, pp, kidv, hsplit, hhdr, hnon, hkey, hc, htime⟩
    have hne : tok ≠ [] := by rintro rfl; cases hsplit
    cases kidv <;> simp [hne, hsplit, hhdr, hkey, hc, (checkTiming_ok_iff ..).mpr htime] at hnon ⊢

theorem validate_ok_iff (P : SrvCfg) (env : Env) (now : Int) (s : AuthData) (Q : AuthData → Prop) :
    Ok (validate P env now s) (fun _ s' => Q s') ↔
    ∃ key c sub, ValidToken P env now s.token key c ∧ c.sub = .str sub ∧ sub ≠ [] ∧
      Q { s with clientID := sub, sig := .sign key s.token, serverID := serverIDOf P.trustDomain,
                 key := .derive (.sign key s.token) s.token } := by
  unfold validate
  simp only [Act.bind_eq, Act.ok_andThen, Act.ok_getS]
  constructor
  · intro h
    cases hpre : checkTokenPre P env now s.token with
    | error r => simp [hpre] at h
    | ok kc =>
      obtain ⟨key, c⟩ := kc
      cases hsub : c.sub <;> simp [hpre, hsub] at h
      exact ⟨key, c, _, (checkTokenPre_ok_iff ..).mp hpre, hsub, h.1, h.2⟩
  · rintro ⟨key, c, sub, hv, hsub, hne, hq⟩
    simp [(checkTokenPre_ok_iff ..).mpr hv, hsub, hne, hq]

theorem runStep_noErr_iff (x : Act Unit) (s : AuthData) (Q : AuthData → Prop) :
    (∃ s', runStep x s = .ok s' ∧ s'.err = none ∧ Q s') ↔ Ok (x s) fun _ s' => s'.err = none ∧ Q s' := by
  unfold runStep Ok
  cases x s with
  | ok p => simp
  | error e =>
    obtain ⟨e, s1⟩ := e
    cases e <;> simp [store_err_ne]

theorem srvSend2_err (rb : Bytes) (s : AuthData) : (srvSend2 rb s).1.err = s.err := by
  unfold srvSend2; cases h : s.err <;> simp [h]

theorem srvSend2_of_err {rb : Bytes} {s : AuthData} (h : s.err ≠ none) :
    srvSend2 rb s = (s, { status := authError }) := by
  unfold srvSend2
  cases he : s.err with
  | none => exact absurd he h
  | some _ => rfl

theorem srvPhase1_ok_iff (P : SrvCfg) (env : Env) (now : Int) (rb : Bytes) (m1 : List OutFrame)
    (Q : AuthData × M2 → Prop) :
    (∃ r, srvPhase1 P env now rb m1 = .ok r ∧ Q r) ↔
    ∃ s1, runStep srvRecv1 { msg := { src := m1 } } = .ok s1 ∧
      ∃ s2, (if s1.err = none then runStep (validate P env now) s1 else .ok s1) = .ok s2 ∧ Q (srvSend2 rb s2) := by
  unfold srvPhase1
  dsimp only
  cases runStep srvRecv1 { msg := { src := m1 } } with
  | error e => simp
  | ok s1 =>
    simp only [Except.ok.injEq, exists_eq_left']
    cases s1.err with
    | some r => simp
    | none => cases runStep (validate P env now) s1 <;> simp

theorem srvPhase1_noErr_iff (P : SrvCfg) (env : Env) (now : Int) (rb : Bytes) (m1 : List OutFrame) (Q : AuthData × M2 → Prop) :
    (∃ r, srvPhase1 P env now rb m1 = .ok r ∧ r.1.err = none ∧ Q r) ↔
    Ok (Rd.m1 { src := m1 }) fun w1 d1 => w1.status = authOK ∧ w1.raLen ≤ (keyLen : Int) ∧
      ∃ key c sub, ValidToken P env now w1.token key c ∧ c.sub = .str sub ∧ sub ≠ [] ∧
      Q ({ clientID := sub, serverID := serverIDOf P.trustDomain, ra := w1.ra, rb := rb, token := w1.token,
           sig := .sign key w1.token, key := .derive (.sign key w1.token) w1.token, msg := d1 },
        { status := authOK, clientID := sub, serverID := serverIDOf P.trustDomain, ra := w1.ra, rb := rb,
          mac := .hmac (.derive (.sign key w1.token) w1.token) (macMsg2 sub (serverIDOf P.trustDomain) w1.ra rb) }) := by
  -- had message 1 left an error, `s2` would be `s1` and `srvSend2` would pass the error on
  have mid (s1 : AuthData) :
      (∃ s2, (if s1.err = none then runStep (validate P env now) s1 else .ok s1) = .ok s2 ∧ s2.err = none ∧
        Q (srvSend2 rb s2)) ↔
      s1.err = none ∧ ∃ s2, runStep (validate P env now) s1 = .ok s2 ∧ s2.err = none ∧ Q (srvSend2 rb s2) := by
    by_cases h : s1.err = none <;>
      simp only [h, ↓reduceIte, true_and, false_and, Except.ok.injEq, exists_eq_left']
  rw [srvPhase1_ok_iff]
  simp only [srvSend2_err, mid]
  rw [runStep_noErr_iff, srvRecv1_noErr_iff]
  simp only [runStep_noErr_iff, validate_ok_iff]
  simp only [srvSend2, true_and]

theorem srvPhase2_accept_iff (env : Env) (s : AuthData) (m3 : List OutFrame) (u : Option Bytes) :
    srvPhase2 env s m3 = .accept u ↔
    s.err = none ∧ Ok (Rd.m3 { s.msg with src := s.msg.src ++ m3 }) fun w _ => w.status = authOK ∧ w.id = s.clientID ∧
      w.rbLen ≤ (keyLen : Int) ∧ w.rb = s.rb ∧ env.macOf w.mac = .hmac s.key (macMsg3 s.clientID s.rb) ∧
      u = if s.clientID.isEmpty then none else some (userPart s.clientID) := by
  refine Iff.trans ?_ (srvRecv3_noErr_iff env (s.feed m3) fun s' =>
    u = if s'.clientID.isEmpty then none else some (userPart s'.clientID))
  rw [← runStep_noErr_iff]
  unfold srvPhase2
  cases runStep (srvRecv3 env) (s.feed m3) with
  | error e => simp
  | ok s3 => cases h : s3.err <;> simp [h, @eq_comm _ u]

theorem serverRun_accept_iff (P : SrvCfg) (env : Env) (now : Int) (rb : Bytes) (m1 m3 : List OutFrame)
    (u : Option Bytes) :
    serverRun P env now rb m1 m3 = .accept u ↔
    ∃ r, srvPhase1 P env now rb m1 = .ok r ∧ srvPhase2 env r.1 m3 = .accept u := by
  unfold serverRun
  cases srvPhase1 P env now rb m1 <;> simp

theorem loadToken_ok_iff (env : Env) (tokenStr : Bytes) (usable : Bool) (Q : AuthData → Prop) :
    Ok (loadToken env tokenStr usable {}) (fun _ s' => Q s') ↔
    ∃ tok sig sub, ClientToken env tokenStr usable tok sig sub ∧ Q { token := tok, sig := sig, clientID := sub } := by
  -- One direction at a time: forward, each stage yields its witness (`Ok` of a refusing alternative computes
  -- to `False`: `cases hok`); backward, one `simp` on the witnesses. With both sides under `simp`, the moving
  -- of `∃ tok sig sub` inward through the unfolded `ClientToken` is what costs.
  unfold loadToken ClientToken
  constructor
  · intro hok
    rw [Act.ok_ite] at hok
    obtain ⟨-, hok⟩ | ⟨hg, hok⟩ := hok
    · cases hok
    rcases hs : splitDots tokenStr with _ | ⟨h, _ | ⟨p, _ | ⟨sg, _ | _⟩⟩⟩ <;> rw [hs] at hok
    case cons.cons.cons.nil =>
      set_option smartUnfolding false in
      obtain ⟨sig, hsig, hok⟩ := seg_of_act_ok hok
      obtain ⟨c, hc, hok⟩ := seg_of_act_ok hok
      cases hsub : c.sub <;> rw [hsub] at hok
      case str sub =>
        simp at hg hok
        exact ⟨_, sig, sub, ⟨hg.2, h, p, sg, c, rfl, rfl, hsig, hc, hsub, hok.1⟩, by simpa using hok.2⟩
      all_goals cases hok
    all_goals cases hok
  · rintro ⟨_, sig, sub, ⟨rfl, h, p, sg, c, hs, rfl, hsig, hc, hsub, hne⟩, hq⟩
    have hne' : tokenStr ≠ [] := by rintro rfl; cases hs
    simpa [hs, hsig, hc, hsub, hne, hne'] using hq

/-- `∃ r, cliPhase0 … = r ∧ …` although `cliPhase0` is total: `clientRun_accept_iff` names the outcome of the
    set-up in the same way, and the two compose by rewriting under that binder. -/
theorem cliPhase0_noErr_iff (env : Env) (tokenStr : Bytes) (usable : Bool) (ra : Bytes) (Q : AuthData × M1 → Prop) :
    (∃ r, cliPhase0 env tokenStr usable ra = r ∧ r.1.err = none ∧ Q r) ↔
    ∃ tok sig sub, ClientToken env tokenStr usable tok sig sub ∧
      Q ({ token := tok, sig := sig, clientID := sub, key := .derive sig tok, ra := ra },
        { status := authOK, clientID := sub, token := tok, ra := ra }) := by
  have h := loadToken_ok_iff env tokenStr usable fun s' => s'.err = none ∧
    Q (cliSend1 ra { s' with key := .derive s'.sig s'.token })
  simp only [cliSend1, true_and] at h
  rw [← h, exists_eq_left']
  unfold Ok
  cases hl : loadToken env tokenStr usable {} with
  | error e =>
    -- either kind of failure stores an error, so message 1 is the error form and the left side is false
    obtain ⟨e, s⟩ := e
    have hst : ∀ r, ∃ r', (s.store r).err = some r' := fun r => Option.ne_none_iff_exists'.mp (store_err_ne s r)
    cases e with
    | auth r =>
      obtain ⟨r', h⟩ := hst r
      simp [cliPhase0, hl, cliSend1, h]
    | net e =>
      obtain ⟨r', h⟩ := hst .load
      simp [cliPhase0, hl, cliSend1, h]
  | ok r =>
    simp only [cliPhase0, hl]
    cases h : r.2.err <;> simp [h, cliSend1]

theorem cliPhase2_accept_iff (env : Env) (s : AuthData) (m2 : List OutFrame) (u : Option Bytes) :
    (∃ m3, cliPhase2 env s m2 = .ok (m3, .accept u)) ↔
    u = none ∧ s.err = none ∧ Ok (Rd.m2 { s.msg with src := s.msg.src ++ m2 }) fun w _ => w.status = authOK ∧
      w.id = s.clientID ∧ w.raLen ≤ (keyLen : Int) ∧ w.ra = s.ra ∧ w.rbLen ≤ (keyLen : Int) ∧
      env.macOf w.mac = .hmac s.key (macMsg2 s.clientID w.sid s.ra w.rb) := by
  have hrecv := cliRecv2_noErr_iff env (s.feed m2) fun _ => True
  rw [← runStep_noErr_iff] at hrecv
  simp only [and_true] at hrecv
  refine Iff.trans ?_ (and_congr_right' hrecv)
  unfold cliPhase2
  cases runStep (cliRecv2 env) (s.feed m2) with
  | error e => simp
  | ok s2 => cases h : s2.err <;> simp [h, @eq_comm _ u]

theorem clientRun_accept_iff (env : Env) (tokenStr : Bytes) (usable : Bool) (ra : Bytes) (m2 : List OutFrame)
    (u : Option Bytes) :
    clientRun env tokenStr usable ra m2 = .accept u ↔
    ∃ r, cliPhase0 env tokenStr usable ra = r ∧ ∃ m3, cliPhase2 env r.1 m2 = .ok (m3, .accept u) := by
  unfold clientRun
  simp only [exists_eq_left']
  cases cliPhase2 env (cliPhase0 env tokenStr usable ra).1 m2 with
  | error e => simp
  | ok r => obtain ⟨m3, o⟩ := r; simp

theorem canSend_derive {knows : Sig → Prop} {seen : Mac → Prop} {s : Sig} {tok msg : Bytes}
    (h : CanSend knows seen (.hmac (.derive s tok) msg)) : knows s ∨ seen (.hmac (.derive s tok) msg) := by
  cases h with
  | replay hs => exact .inr hs
  | compute _ _ hk => exact .inl hk

end Cedar.Token
