/-
  For C08, ClassAd wire: the two reading receivers decoding what a sender laid out, from the pending
  bytes of the message, wherever the frames are cut (refinement over `Dec.pending`, as for C14).
  The sender is `putAdRaw` (`adVals`) only: `Cedar.putAd`, which sends secret items behind the marker,
  is compared by the oracle alone, and the marker-path round trip is C09's, over `Privacy.recvAd`.
  In front of them, the definitions `C08.wire_roundtrip` is stated with.
-/
import CedarProofs.AdWireLemmas
import CedarProofs.CodecStr

namespace Cedar

/-- well-formed and not the marker: the receivers take a plain expression `ZKM` for the announcement of a secret field -/
def ExprWF (e : Bytes) : Prop := (Val.str e).wf ∧ e ≠ marker

/-- a type name as an honest sender writes it -/
def TypeWF (t : Bytes) : Prop := (Val.str t).wf ∧ (t = [] ∨ isTypeName t = true)

/-- the parse half of `adLoop`, over the whole list -/
def parseAll (ferr pok : Bytes → Bool) : List Bytes → Except Err (List Item)
  | [] => .ok []
  | e :: es =>
    match parseAndInsert ferr pok e with
    | .error x => .error x
    | .ok it =>
      match parseAll ferr pok es with
      | .error x => .error x
      | .ok its => .ok (it :: its)

/-- the attribute name of an expression string -/
def nameOf (e : Bytes) : Bytes :=
  match splitEq e with
  | some (l, _) => trimSpace l
  | none => []

/-- re-cutting payload bytes into frames: `ks` are the lengths of the partial frames, the remainder
    travels in the end-of-message frame (`C14.cutAt`) -/
def cutFrames : Bytes → List Nat → List OutFrame
  | B, [] => [(B, true)]
  | B, k :: ks => (B.take k, false) :: cutFrames (B.drop k) ks

/-- a receiver that has read nothing, in front of these frames -/
def Rd.fresh (enc keyed : Bool) (frames : List OutFrame) : Rd := { d := ⟨[], false, frames⟩, mode := enc, keyed := keyed }

theorem Rd.getStringIn_spec (enc : Bool) (r : Rd) (s rest : Bytes) (hw : (Val.str s).wf)
    (hp : r.d.pending = some (Spec.enc enc (.str s) ++ rest)) :
    ∃ d', r.getStringIn enc = .ok (s, { r with d := d' }) ∧ d'.pending = some rest := by
  obtain ⟨d', hok, hp'⟩ := getString_spec enc r.d s rest hw.1 hw.2.1 hw.2.2 hp
  exact ⟨d', by rw [Rd.getStringIn_map, hok]; rfl, hp'⟩

theorem Rd.getInt_spec {m : Bool} (r : Rd) (n : Int) (rest : Bytes) (hn : (Val.int n).wf)
    (hp : r.d.pending = some (Spec.enc m (.int n) ++ rest)) :
    ∃ d', r.getInt = .ok (n, { r with d := d' }) ∧ d'.pending = some rest := by
  obtain ⟨d', hok, hp'⟩ := getInt_be64_toU64 r.d n rest hn.1 hn.2 hp
  exact ⟨d', by unfold Rd.getInt; rw [hok], hp'⟩

theorem Rd.readExpr_spec (r : Rd) (e rest : Bytes) (hw : ExprWF e)
    (hp : r.d.pending = some (Spec.enc r.mode (.str e) ++ rest)) :
    ∃ d', r.readExpr = .ok (e, { r with d := d' }) ∧ d'.pending = some rest := by
  obtain ⟨d', hok, hp'⟩ := r.getStringIn_spec r.mode e rest hw.1 hp
  exact ⟨d', by rw [Rd.readExpr_bind, hok]; exact if_neg hw.2, hp'⟩

theorem Rd.guard_spec (r : Rd) (B : Bytes) (hB : 1 ≤ B.length) (hp : r.d.pending = some B) :
    ∃ d', r.guard = .ok { r with d := d' } ∧ d'.pending = some B := by
  obtain ⟨_, d', hok, hp', _, _⟩ := (ensure_spec r.d 1 B hp).resolve_right fun hl => Nat.not_lt.mpr hB hl.1
  exact ⟨d', by rw [Rd.guard_map, hok]; rfl, hp'⟩

theorem rawLoop_spec : ∀ (exprs : List Bytes) (r : Rd) (acc : List Bytes) (rest : Bytes),
    (∀ e ∈ exprs, ExprWF e) →
    r.d.pending = some (Spec.encAll r.mode (exprs.map Val.str) ++ rest) →
    ∃ d', rawLoop exprs.length r acc = .ok (acc.reverse ++ exprs, { r with d := d' }) ∧ d'.pending = some rest := by
  intro exprs
  induction exprs with
  | nil => intro r acc rest _ hp; exact ⟨r.d, by simp [rawLoop], by simpa [Spec.encAll] using hp⟩
  | cons e es ih =>
    intro r acc rest hw hp
    rw [List.map_cons, Spec.encAll_cons, List.append_assoc] at hp
    -- an expression, even the empty one, occupies at least one byte
    obtain ⟨dg, hgd, hpg⟩ := r.guard_spec _ (by simp [Spec.enc]; omega) hp
    obtain ⟨d1, hok, hp1⟩ := Rd.readExpr_spec { r with d := dg } e _ (hw e (List.mem_cons_self ..)) hpg
    obtain ⟨d2, hok2, hp2⟩ := ih { r with d := d1 } (e :: acc) rest (fun x hx => hw x (List.mem_cons_of_mem _ hx)) hp1
    refine ⟨d2, ?_, hp2⟩
    simp only [List.length_cons, rawLoop_succ, bind, Except.bind, hgd, hok, hok2]
    rw [List.reverse_cons, List.append_assoc, List.singleton_append]

theorem parseAll_cons_ok (ferr pok : Bytes → Bool) (e : Bytes) (es : List Bytes) (items : List Item)
    (h : parseAll ferr pok (e :: es) = .ok items) :
    ∃ it its, parseAndInsert ferr pok e = .ok it ∧ parseAll ferr pok es = .ok its ∧ items = it :: its := by
  unfold parseAll at h
  cases hpe : parseAndInsert ferr pok e with
  | error x => rw [hpe] at h; cases h
  | ok it =>
    rw [hpe] at h; dsimp only at h
    cases hps : parseAll ferr pok es with
    | error x => rw [hps] at h; cases h
    | ok its => rw [hps] at h; cases h; exact ⟨it, its, rfl, rfl, rfl⟩

theorem adLoop_spec (ferr pok : Bytes → Bool) : ∀ (exprs : List Bytes) (items : List Item) (r : Rd) (acc : List Item) (rest : Bytes),
    (∀ e ∈ exprs, ExprWF e) → parseAll ferr pok exprs = .ok items →
    r.d.pending = some (Spec.encAll r.mode (exprs.map Val.str) ++ rest) →
    ∃ d', adLoop ferr pok exprs.length r acc = .ok (acc.reverse ++ items, { r with d := d' }) ∧ d'.pending = some rest := by
  intro exprs
  induction exprs with
  | nil =>
    intro items r acc rest _ hpa hp
    cases hpa
    exact ⟨r.d, by simp [adLoop], by simpa [Spec.encAll] using hp⟩
  | cons e es ih =>
    intro items r acc rest hw hpa hp
    rw [List.map_cons, Spec.encAll_cons, List.append_assoc] at hp
    obtain ⟨d1, hok, hp1⟩ := r.readExpr_spec e _ (hw e (List.mem_cons_self ..)) hp
    obtain ⟨it, its, hpe, hps, rfl⟩ := parseAll_cons_ok ferr pok e es items hpa
    obtain ⟨d2, hok2, hp2⟩ := ih its { r with d := d1 } (it :: acc) rest (fun x hx => hw x (List.mem_cons_of_mem _ hx)) hps hp1
    refine ⟨d2, ?_, hp2⟩
    simp only [List.length_cons, adLoop_succ, bind, Except.bind, hok, hpe, hok2]
    rw [List.reverse_cons, List.append_assoc, List.singleton_append]

theorem parseAll_names (ferr pok : Bytes → Bool) : ∀ (exprs : List Bytes) (items : List Item),
    parseAll ferr pok exprs = .ok items → items.map (·.1) = exprs.map nameOf := by
  intro exprs
  induction exprs with
  | nil => intro items h; cases h; rfl
  | cons e es ih =>
    intro items h
    obtain ⟨it, its, hpe, hps, rfl⟩ := parseAll_cons_ok ferr pok e es items h
    rw [List.map_cons, List.map_cons, ih its hps]
    congr 1
    obtain ⟨l, r, hsp, ha, _⟩ := parseAndInsert_spec ferr pok e hpe
    unfold nameOf; rw [hsp]; exact ha

theorem adVals_enc (enc : Bool) (exprs : List Bytes) (my tg : Bytes) (rest : Bytes) :
    Spec.encAll enc (adVals exprs my tg) ++ rest =
      Spec.enc enc (.int exprs.length) ++ (Spec.encAll enc (exprs.map Val.str) ++
        (Spec.enc enc (.str my) ++ (Spec.enc enc (.str tg) ++ rest))) := by
  unfold adVals
  rw [Spec.encAll_cons, Spec.encAll_append, Spec.encAll_cons, Spec.encAll_cons]
  simp [Spec.encAll, List.append_assoc]

theorem count_wf (n : Nat) (h : n < 2^63) : (Val.int (n : Int)).wf := by
  unfold Val.wf; constructor <;> omega

theorem adVals_wf {exprs : List Bytes} {my tg : Bytes} (hc : exprs.length < 2^63)
    (hw : ∀ e ∈ exprs, (Val.str e).wf) (hmy : (Val.str my).wf) (htg : (Val.str tg).wf) :
    ∀ v ∈ adVals exprs my tg, v.wf :=
  List.forall_mem_cons.mpr ⟨count_wf _ hc, List.forall_mem_append.mpr ⟨List.forall_mem_map.mpr hw,
    List.forall_mem_cons.mpr ⟨hmy, List.forall_mem_singleton.mpr htg⟩⟩⟩

theorem Rd.getRaw_spec (r : Rd) (exprs : List Bytes) (my tg rest : Bytes)
    (hc : exprs.length < 2^63) (hw : ∀ e ∈ exprs, ExprWF e) (hmy : TypeWF my) (htg : TypeWF tg)
    (hp : r.d.pending = some (Spec.encAll r.mode (adVals exprs my tg) ++ rest)) :
    ∃ d', r.getRaw = .ok (⟨exprs, my, tg⟩, { r with d := d' }) ∧ d'.pending = some rest := by
  rw [adVals_enc] at hp
  obtain ⟨d1, h1, hp1⟩ := r.getInt_spec _ _ (count_wf _ hc) hp
  obtain ⟨d2, h2, hp2⟩ := rawLoop_spec exprs { r with d := d1 } [] _ hw hp1
  obtain ⟨d3, h3, hp3⟩ := Rd.getStringIn_spec r.mode { r with d := d2 } my _ hmy.1 hp2
  obtain ⟨d4, h4, hp4⟩ := Rd.getStringIn_spec r.mode { r with d := d3 } tg _ htg.1 hp3
  refine ⟨d4, ?_, hp4⟩
  simp only [Rd.getRaw_bind, bind, Except.bind, h1, Int.toNat_natCast, h2, h3, h4, typeCheck_ok _ hmy.2, typeCheck_ok _ htg.2]
  rfl

theorem Rd.getAd_spec (ferr pok : Bytes → Bool) (r : Rd) (exprs : List Bytes) (items : List Item)
    (my tg rest : Bytes) (hc : exprs.length < 2^63) (hw : ∀ e ∈ exprs, ExprWF e)
    (hmy : (Val.str my).wf) (htg : (Val.str tg).wf) (hpa : parseAll ferr pok exprs = .ok items)
    (hp : r.d.pending = some (Spec.encAll r.mode (adVals exprs my tg) ++ rest)) :
    ∃ d', r.getAd ferr pok = .ok (items ++ typeItems my tg, { r with d := d' }) ∧ d'.pending = some rest := by
  rw [adVals_enc] at hp
  obtain ⟨d1, h1, hp1⟩ := r.getInt_spec _ _ (count_wf _ hc) hp
  obtain ⟨d2, h2, hp2⟩ := adLoop_spec ferr pok exprs items { r with d := d1 } [] _ hw hpa hp1
  obtain ⟨d3, h3, hp3⟩ := Rd.getStringIn_spec r.mode { r with d := d2 } my _ hmy hp2
  obtain ⟨d4, h4, hp4⟩ := Rd.getStringIn_spec r.mode { r with d := d3 } tg _ htg hp3
  refine ⟨d4, ?_, hp4⟩
  simp only [Rd.getAd_bind, bind, Except.bind, h1, Int.toNat_natCast, h2, h3, h4]
  rfl

theorem pending_cutFrames : ∀ (ks : List Nat) (B : Bytes), pendingSrc (cutFrames B ks) = some B
  | [], _ => rfl
  | _ :: ks, _ => by simp [cutFrames, pendingSrc, pending_cutFrames ks]

theorem Rd.fresh_pending (enc keyed : Bool) (B : Bytes) (ks : List Nat) :
    (Rd.fresh enc keyed (cutFrames B ks)).d.pending = some B := by
  simp [Rd.fresh, Dec.pending, pending_cutFrames]

end Cedar
