/-
  What each operation of the stream model does when it succeeds, stated once: the two send shapes
  (cleartext / sealed), the two receive shapes and their footprint, every compound operation as one
  frame-level call between two updates of the buffering and mode fields, the loops over a wire one
  frame at a time. `_ok` lemmas are iffs, except `sendFrame_ok`, `openBody_ok` (the converses are
  `sendFrame_plain_ok`/`_keyed_ok`, `openBody_of_seal`).
-/
import CedarModel.Stream
import CedarModel.Session
import CedarProofs.Util
import CedarProofs.BasicLemmas

namespace Cedar

theorem flag_le_maxEndFlag {fl : Nat} (h : fl ≤ 1) : fl ≤ maxEndFlag := Nat.le_trans h (by decide)

theorem parseHdr_hdrBytes {fl n : Nat} (hfl : fl < 256) (hn : n < 2 ^ 32) (r : Bytes) :
    parseHdr (hdrBytes fl n ++ r) = some (fl, n, r) := by
  have hb : be32 n = [UInt8.ofNat (n / 256 ^ 3 % 256), UInt8.ofNat (n / 256 ^ 2 % 256),
      UInt8.ofNat (n / 256 ^ 1 % 256), UInt8.ofNat (n / 256 ^ 0 % 256)] := rfl
  rw [hdrBytes, hb]
  show some ((UInt8.ofNat fl).toNat, beVal _, r) = _
  rw [← hb, beVal_be32' n hn, UInt8.toNat_ofNat', Nat.mod_eq_of_lt hfl]

/-- counters up to the limit do not wrap the nonce's leading word -/
theorem nonce_inj {iv : IV} {a b : Nat} (ha : a ≤ counterLimit) (hb : b ≤ counterLimit)
    (h : iv.nonce a = iv.nonce b) : a = b := by
  have hlim : counterLimit < 2 ^ 32 := by decide
  unfold IV.nonce at h
  simp only [IV.mk.injEq, and_true] at h
  omega

theorem nonce_zero_inj {a b : IV} (ha : a.w0 < 2^32) (hb : b.w0 < 2^32) (h : a.nonce 0 = b.nonce 0) : a = b := by
  cases a; cases b
  simp only [IV.nonce, IV.mk.injEq, Nat.add_zero] at *
  exact ⟨by omega, h.2⟩

theorem Dig.finalize_finalSend (d : Dig) : d.finalize.finalSend = some d.fs := rfl
theorem Dig.finalize_finalRecv (d : Dig) : d.finalize.finalRecv = some d.fr := rfl

theorem Dig.fs_of_final {d : Dig} {x} (h : d.finalSend = some x) : d.fs = x := by rw [Dig.fs, h]
theorem Dig.fr_of_final {d : Dig} {x} (h : d.finalRecv = some x) : d.fr = x := by rw [Dig.fr, h]

theorem Dig.finalize_of_final {d : Dig} {x y} (hs : d.finalSend = some x) (hr : d.finalRecv = some y) :
    d.finalize = d := by
  rw [Dig.finalize, Dig.fs_of_final hs, Dig.fr_of_final hr, ← hs, ← hr]

theorem Dig.feedSend_of_final {d : Dig} {x} (h : d.finalSend = some x) (b : Bytes) : d.feedSend b = d := by
  rw [Dig.feedSend, h]
theorem Dig.feedRecv_of_final {d : Dig} {x} (h : d.finalRecv = some x) (b : Bytes) : d.feedRecv b = d := by
  rw [Dig.feedRecv, h]

theorem setKey_fs (s : Stream) (k : Nat) (iv : IV) : (s.setKey k iv).dig.fs = s.dig.fs := Dig.fs_of_final rfl
theorem setKey_fr (s : Stream) (k : Nat) (iv : IV) : (s.setKey k iv).dig.fr = s.dig.fr := Dig.fr_of_final rfl

theorem crypting_cases (s : Stream) : s.crypting = false ∨ ∃ k, s.key = some k ∧ s.encrypted = true := by
  unfold Stream.crypting
  cases hk : s.key with
  | none => exact .inl rfl
  | some k => cases he : s.encrypted with
    | false => exact .inl rfl
    | true => exact .inr ⟨k, rfl, rfl⟩

theorem crypting_of_keyed {s : Stream} {k : Nat} (hk : s.key = some k) (he : s.encrypted = true) :
    s.crypting = true := by rw [Stream.crypting, hk, he]; rfl

/-- The state after a successful seal: the record update of `sendFrame`'s keyed branch, under a name. -/
def Stream.afterSeal (s : Stream) (data : Bytes) (flag len : Nat) : Stream :=
  { s with encCtr := s.encCtr + 1, finSendAAD := true,
           dig := (if s.finSendAAD then s.dig else s.dig.finalize).feedSend (hdrBytes flag len ++ data) }

theorem sealFrame_len_pos (s : Stream) (k : Nat) (d : Bytes) (fl : Nat) : 0 < (s.sealFrame k d fl).len :=
  Nat.lt_of_lt_of_le (Nat.lt_add_left _ (by decide : 0 < tagLen)) (Nat.le_add_right ..)

theorem sealFrame_len_eq_wireLen (s : Stream) (k : Nat) (d : Bytes) (fl : Nat) :
    (s.sealFrame k d fl).len = (s.sealFrame k d fl).body.wireLen := by
  unfold Stream.sealFrame
  by_cases hc : s.encCtr = 0
  · simp only [if_pos hc, Body.wireLen]; omega
  · simp only [if_neg hc, Body.wireLen]; omega

theorem sendFrame_plain_ok {s s' : Stream} {d : Bytes} {fl : Nat} {f : WireFrame} (hc : s.crypting = false) :
    s.sendFrame d fl = .ok (s', f) ↔
      d.length ≤ maxMessageSize ∧ f = ⟨fl, d.length, .raw d⟩ ∧
      s' = { s with dig := s.dig.feedSend (hdrBytes fl d.length ++ d) } := by
  unfold Stream.sendFrame
  rw [ite_error_eq_ok, Nat.not_lt]
  split
  · rename_i k hk he
    rw [crypting_of_keyed hk he] at hc; cases hc
  · exact and_congr_right' ⟨fun h => by cases h; exact ⟨rfl, rfl⟩, fun h => by rw [h.1, h.2]⟩

theorem sendFrame_keyed_ok {s s' : Stream} {k : Nat} {d : Bytes} {fl : Nat} {f : WireFrame}
    (hk : s.key = some k) (he : s.encrypted = true) :
    s.sendFrame d fl = .ok (s', f) ↔
      d.length + tagLen + (if s.encCtr = 0 then ivLen else 0) ≤ maxMessageSize ∧ s.encCtr ≠ counterLimit ∧
      f = s.sealFrame k d fl ∧ s' = s.afterSeal d fl f.len := by
  unfold Stream.sendFrame
  rw [ite_error_eq_ok, Nat.not_lt]
  split
  · rename_i k' hk' _
    cases hk'.symm.trans hk
    rw [ite_error_eq_ok, ite_error_eq_ok, Nat.not_lt]
    simp only [Except.ok.injEq, Prod.mk.injEq]
    constructor
    · rintro ⟨_, h2, h3, rfl, rfl⟩; exact ⟨h2, h3, rfl, rfl⟩
    · rintro ⟨h2, h3, rfl, rfl⟩; exact ⟨by omega, h2, h3, rfl, rfl⟩
  · rename_i hno; exact (hno k hk he).elim

theorem sendFrame_ok {s s' : Stream} {d : Bytes} {fl : Nat} {f : WireFrame}
    (h : s.sendFrame d fl = .ok (s', f)) :
    (s.crypting = false ∧ f = ⟨fl, d.length, .raw d⟩ ∧
      s' = { s with dig := s.dig.feedSend (hdrBytes fl d.length ++ d) }) ∨
    (∃ k, s.key = some k ∧ s.encrypted = true ∧ s.encCtr ≠ counterLimit ∧
      f = s.sealFrame k d fl ∧ f.len ≤ maxMessageSize ∧ s' = s.afterSeal d fl f.len) := by
  rcases crypting_cases s with hc | ⟨k, hk, he⟩
  · exact .inl ⟨hc, ((sendFrame_plain_ok hc).mp h).2⟩
  · obtain ⟨h1, h2, rfl, h4⟩ := (sendFrame_keyed_ok hk he).mp h
    exact .inr ⟨k, hk, he, h2, rfl, h1, h4⟩

theorem checkHdr_ok {g : WireFrame} : checkHdr g = .ok () ↔ g.len ≤ maxMessageSize ∧ g.flag ≤ maxEndFlag := by
  unfold checkHdr
  rw [ite_error_eq_ok, ite_error_eq_ok, Nat.not_lt, Nat.not_lt]
  exact and_congr_right' (and_iff_left rfl)

theorem sendFrame_passes_checkHdr {s s' : Stream} {d : Bytes} {fl : Nat} {f : WireFrame} (hfl : fl ≤ 1)
    (h : s.sendFrame d fl = .ok (s', f)) : checkHdr f = .ok () ∧ f.len = f.body.wireLen ∧ f.flag = fl := by
  rcases sendFrame_ok h with ⟨hc, rfl, _⟩ | ⟨k, _, _, _, rfl, hlen, _⟩
  · exact ⟨checkHdr_ok.mpr ⟨((sendFrame_plain_ok hc).mp h).1, flag_le_maxEndFlag hfl⟩, rfl, rfl⟩
  · exact ⟨checkHdr_ok.mpr ⟨hlen, flag_le_maxEndFlag hfl⟩, sealFrame_len_eq_wireLen .., rfl⟩

theorem Body.wireLen_ct_pos (ivo : Option IV) (c : Sealed) : 0 < (Body.ct ivo c).wireLen := by
  cases ivo with
  | none => exact Nat.lt_of_lt_of_le (by decide : 0 < tagLen) (Nat.le_add_left ..)
  | some iv => exact Nat.lt_of_lt_of_le (by decide : 0 < ivLen) (Nat.le_add_right ..)

theorem openBody_ok {s : Stream} {k : Nat} {g : WireFrame} {iv : IV} {p : Bytes}
    (h : s.openBody k g = .ok (iv, p)) :
    ∃ ivo c, g.body = .ct ivo c ∧ c.key = k ∧ c.plain = p ∧ c.nonce = iv.nonce s.decCtr ∧
      c.aad = ⟨if s.finRecvAAD then none else some (s.dig.fr, s.dig.fs), g.flag, g.len⟩ ∧
      (if s.decCtr = 0 then ivo = some iv ∧ iv ≠ s.encIV else ivo = none ∧ iv = s.decIV) := by
  unfold Stream.openBody at h
  rw [ite_error_eq_ok, ite_error_eq_ok] at h
  obtain ⟨_, _, h⟩ := h
  have fin : ∀ {iv' : IV} {c : Sealed} {aad : Aad},
      (if c.key = k ∧ c.nonce = iv'.nonce s.decCtr ∧ c.aad = aad then Except.ok (iv', c.plain)
        else Except.error Err.authFail) = Except.ok (iv, p) →
      c.key = k ∧ c.plain = p ∧ c.nonce = iv.nonce s.decCtr ∧ c.aad = aad ∧ iv' = iv := by
    intro iv' c aad h
    obtain ⟨hc, h⟩ := ite_then_of_ne h nofun
    cases h
    exact ⟨hc.1, rfl, hc.2.1, hc.2.2, rfl⟩
  by_cases hc : s.decCtr = 0
  · simp only [if_pos hc] at h ⊢
    cases hb : g.body with
    | raw b => rw [hb] at h; cases h
    | ct ivo c =>
      rw [hb] at h
      cases ivo with
      | none => cases h
      | some i =>
        by_cases hie : i = s.encIV
        · simp only [if_pos hie] at h; cases h
        · simp only [if_neg hie] at h
          obtain ⟨h1, h2, h3, h4, rfl⟩ := fin h
          exact ⟨_, c, rfl, h1, h2, h3, h4, rfl, hie⟩
  · simp only [if_neg hc] at h ⊢
    cases hb : g.body with
    | raw b => rw [hb] at h; cases h
    | ct ivo c =>
      rw [hb] at h
      cases ivo with
      | some i => cases h
      | none =>
        obtain ⟨h1, h2, h3, h4, rfl⟩ := fin h
        exact ⟨_, c, rfl, h1, h2, h3, h4, rfl, rfl⟩

/-- a `.ct` body is never too short, so the length checks need no hypothesis -/
theorem openBody_of_seal {s : Stream} {k : Nat} {g : WireFrame} {iv : IV} {ivo : Option IV} {c : Sealed}
    (hb : g.body = .ct ivo c) (hk : c.key = k) (hn : c.nonce = iv.nonce s.decCtr)
    (ha : c.aad = ⟨if s.finRecvAAD then none else some (s.dig.fr, s.dig.fs), g.flag, g.len⟩)
    (hi : if s.decCtr = 0 then ivo = some iv ∧ iv ≠ s.encIV else ivo = none ∧ iv = s.decIV) :
    s.openBody k g = .ok (iv, c.plain) := by
  unfold Stream.openBody
  rw [hb]
  by_cases hc : s.decCtr = 0
  · rw [if_pos hc] at hi
    obtain ⟨rfl, hne⟩ := hi
    have h1 : ¬ (s.decCtr = 0 ∧ (Body.ct (some iv) c).wireLen < ivLen) :=
      fun h => Nat.not_lt.mpr (Nat.le_add_right ivLen _) h.2
    rw [if_neg (Nat.ne_of_gt (Body.wireLen_ct_pos ..)), if_neg h1]
    simp only [if_pos hc, if_neg hne]
    rw [if_pos ⟨hk, hn, ha⟩]
  · rw [if_neg hc] at hi
    obtain ⟨rfl, rfl⟩ := hi
    rw [if_neg (Nat.ne_of_gt (Body.wireLen_ct_pos ..)), if_neg (fun h => hc h.1)]
    simp only [if_neg hc]
    rw [if_pos ⟨hk, hn, ha⟩]

theorem recvFrameWithEnd_keyed_ok {s s' : Stream} {k : Nat} {g : WireFrame} {d : Bytes} {fl : Nat}
    (hk : s.key = some k) (he : s.encrypted = true) :
    s.recvFrameWithEnd g = .ok (s', d, fl) ↔
      checkHdr g = .ok () ∧ g.len ≠ 0 ∧ fl = g.flag ∧
      ∃ iv, s.openBody k g = .ok (iv, d) ∧ s' = (s.afterOpen iv).feedRecv (hdrBytes g.flag g.len ++ d) := by
  unfold Stream.recvFrameWithEnd
  cases checkHdr g with
  | error e => exact ⟨fun h => (nomatch h), fun h => nomatch h.1⟩
  | ok u =>
    -- `u : Unit`: the outer `match` reduces and `.ok u = .ok ()` is `rfl`
    simp only [crypting_of_keyed hk he, if_true, true_and]
    by_cases h0 : g.len = 0
    · rw [if_pos h0]; exact ⟨fun h => (nomatch h), fun h => (h.1 h0).elim⟩
    · rw [if_neg h0]
      split
      · rename_i k' hk' _
        cases hk'.symm.trans hk
        cases s.openBody k g with
        | error e => exact ⟨fun h => (nomatch h), fun ⟨_, _, _, h, _⟩ => nomatch h⟩
        | ok r =>
          obtain ⟨iv, p⟩ := r
          simp only [Except.ok.injEq, Prod.mk.injEq]
          constructor
          · rintro ⟨rfl, rfl, rfl⟩; exact ⟨h0, rfl, iv, ⟨rfl, rfl⟩, rfl⟩
          · rintro ⟨_, rfl, iv', ⟨rfl, rfl⟩, rfl⟩; exact ⟨rfl, rfl, rfl⟩
      · rename_i hno; exact (hno k hk he).elim

theorem recvFrameWithEnd_plain_ok {s s' : Stream} {g : WireFrame} {d : Bytes} {fl : Nat}
    (hc : s.crypting = false) :
    s.recvFrameWithEnd g = .ok (s', d, fl) ↔
      checkHdr g = .ok () ∧ fl = g.flag ∧ (if g.len = 0 then d = [] else g.body = .raw d) ∧
      s' = s.feedRecv (hdrBytes g.flag g.len ++ d) := by
  unfold Stream.recvFrameWithEnd
  cases checkHdr g with
  | error e => exact ⟨fun h => (nomatch h), fun h => nomatch h.1⟩
  | ok u =>
    dsimp only
    rw [hc]
    by_cases h0 : g.len = 0
    · rw [if_pos h0, if_pos h0, if_neg Bool.false_ne_true]
      constructor
      · intro h; cases h; exact ⟨rfl, rfl, rfl, by rw [List.append_nil]⟩
      · rintro ⟨_, rfl, rfl, rfl⟩; rw [List.append_nil]
    · rw [if_neg h0, if_neg h0]
      split
      · rename_i k hk he
        rw [crypting_of_keyed hk he] at hc; cases hc
      · cases g.body with
        | raw b =>
          constructor
          · intro h; cases h; exact ⟨rfl, rfl, rfl, rfl⟩
          · rintro ⟨_, rfl, h, rfl⟩; cases h; rfl
        | ct a c => exact ⟨fun h => (nomatch h), fun h => nomatch h.2.2.1⟩

/-- `ReceiveFrame` differs from `ReceiveFrameWithEnd` on empty frames only: accepted without feeding the digest -/
theorem recvFrame_ok {s s' : Stream} {g : WireFrame} {d : Bytes} :
    s.recvFrame g = .ok (s', d) ↔
      (g.len = 0 ∧ checkHdr g = .ok () ∧ s.crypting = false ∧ s' = s ∧ d = []) ∨
      (g.len ≠ 0 ∧ s.recvFrameWithEnd g = .ok (s', d, g.flag)) := by
  unfold Stream.recvFrame Stream.recvFrameWithEnd
  cases checkHdr g with
  | error e => exact ⟨fun h => (nomatch h), fun h => h.elim (fun h => nomatch h.2.1) (fun h => nomatch h.2)⟩
  | ok u =>
    dsimp only
    by_cases h0 : g.len = 0
    · rw [if_pos h0]
      cases s.crypting with
      | true => exact ⟨fun h => (nomatch h), fun h => h.elim (fun h => nomatch h.2.2.1) (fun h => (h.1 h0).elim)⟩
      | false =>
        rw [if_neg Bool.false_ne_true]
        constructor
        · intro h; cases h; exact .inl ⟨h0, rfl, rfl, rfl, rfl⟩
        · rintro (⟨_, _, _, rfl, rfl⟩ | h)
          · rfl
          · exact (h.1 h0).elim
    · rw [if_neg h0, if_neg h0]
      refine Iff.trans ?_ (iff_of_eq (by rw [or_iff_right (fun h => h0 h.1), and_iff_right h0]))
      split
      · cases s.openBody _ g with
        | error e => exact ⟨fun h => (nomatch h), fun h => nomatch h⟩
        | ok r => exact ⟨fun h => by cases h; rfl, fun h => by cases h; rfl⟩
      · cases g.body with
        | raw b => exact ⟨fun h => by cases h; rfl, fun h => by cases h; rfl⟩
        | ct a c => exact ⟨fun h => (nomatch h), fun h => nomatch h⟩

theorem recvFrame_keyed_iff_withEnd {s s' : Stream} {k : Nat} {g : WireFrame} {d : Bytes}
    (hk : s.key = some k) (he : s.encrypted = true) :
    s.recvFrame g = .ok (s', d) ↔ s.recvFrameWithEnd g = .ok (s', d, g.flag) := by
  rw [recvFrame_ok, crypting_of_keyed hk he]
  exact ⟨fun h => h.elim (fun h => nomatch h.2.2.1) (·.2),
         fun h => .inr ⟨((recvFrameWithEnd_keyed_ok hk he).mp h).2.1, h⟩⟩

theorem recvFrameWithEnd_footprint {s s' : Stream} {g : WireFrame} {d : Bytes} {fl : Nat}
    (h : s.recvFrameWithEnd g = .ok (s', d, fl)) :
    ∃ iv c f dg, s' = { s with decIV := iv, decCtr := c, finRecvAAD := f, dig := dg } := by
  rcases crypting_cases s with hc | ⟨k, hk, he⟩
  · obtain ⟨_, _, _, rfl⟩ := (recvFrameWithEnd_plain_ok hc).mp h
    exact ⟨_, _, _, _, rfl⟩
  · obtain ⟨_, _, _, iv, _, rfl⟩ := (recvFrameWithEnd_keyed_ok hk he).mp h
    exact ⟨_, _, _, _, rfl⟩

/-- for any other field destructure the footprint, as here -/
theorem recvFrameWithEnd_keeps_send_half {s s' : Stream} {g d fl} (h : s.recvFrameWithEnd g = .ok (s', d, fl)) :
    s'.key = s.key ∧ s'.encIV = s.encIV ∧ s'.encCtr = s.encCtr ∧ s'.encrypted = s.encrypted ∧
    s'.beforeSecret = s.beforeSecret := by
  obtain ⟨_, _, _, _, rfl⟩ := recvFrameWithEnd_footprint h
  exact ⟨rfl, rfl, rfl, rfl, rfl⟩

theorem recvFrameWithEnd_recvBuf {s s' : Stream} {g d fl} (h : s.recvFrameWithEnd g = .ok (s', d, fl)) :
    s'.recvBuf = s.recvBuf := by
  obtain ⟨_, _, _, _, rfl⟩ := recvFrameWithEnd_footprint h
  rfl

theorem recvFrame_keeps_send_half {s s' : Stream} {g d} (h : s.recvFrame g = .ok (s', d)) :
    s'.key = s.key ∧ s'.encIV = s.encIV ∧ s'.encCtr = s.encCtr ∧ s'.encrypted = s.encrypted ∧
    s'.beforeSecret = s.beforeSecret := by
  rcases recvFrame_ok.mp h with ⟨_, _, _, rfl, _⟩ | ⟨_, h⟩
  · exact ⟨rfl, rfl, rfl, rfl, rfl⟩
  · exact recvFrameWithEnd_keeps_send_half h

/-- neither field the secrets' save-and-restore goes through is touched by a frame-level send -/
theorem sendFrame_mode {s s' : Stream} {d fl f} (h : s.sendFrame d fl = .ok (s', f)) :
    s'.encrypted = s.encrypted ∧ s'.beforeSecret = s.beforeSecret := by
  rcases sendFrame_ok h with ⟨_, _, rfl⟩ | ⟨_, _, _, _, _, _, rfl⟩ <;> exact ⟨rfl, rfl⟩

theorem flushPartial_ok {s s' : Stream} {fs : List WireFrame} :
    s.flushPartial = .ok (s', fs) ↔
      (s.sendBuf.isEmpty = true ∧ s' = s ∧ fs = []) ∨
      (s.sendBuf.isEmpty = false ∧
        ∃ s1 f, s.sendFrame s.sendBuf 0 = .ok (s1, f) ∧ s' = { s1 with sendBuf := [] } ∧ fs = [f]) := by
  unfold Stream.flushPartial
  cases s.sendBuf.isEmpty with
  | true =>
    rw [if_pos rfl]
    exact ⟨fun h => by cases h; exact .inl ⟨rfl, rfl, rfl⟩,
           fun h => h.elim (fun ⟨_, h1, h2⟩ => by rw [h1, h2]) (fun h => nomatch h.1)⟩
  | false =>
    rw [if_neg Bool.false_ne_true]
    cases s.sendFrame s.sendBuf 0 with
    | error e => exact ⟨fun h => (nomatch h), fun h => h.elim (fun h => nomatch h.1) (fun ⟨_, _, _, h, _⟩ => nomatch h)⟩
    | ok r =>
      exact ⟨fun h => by cases h; exact .inr ⟨rfl, _, _, rfl, rfl, rfl⟩,
             fun h => h.elim (fun h => nomatch h.1) (fun ⟨_, _, _, h, h1, h2⟩ => by cases h; rw [h1, h2])⟩

theorem writeMessage_ok {s s' : Stream} {d : Bytes} {fs : List WireFrame} :
    s.writeMessage d = .ok (s', fs) ↔
      s.sendEOM = false ∧
      (((s.sendBuf ++ d).length < frameThreshold ∧ s' = { s with sendBuf := s.sendBuf ++ d } ∧ fs = []) ∨
       (frameThreshold ≤ (s.sendBuf ++ d).length ∧
        ∃ s1 f, ({ s with sendBuf := s.sendBuf ++ d } : Stream).sendFrame (s.sendBuf ++ d) 0 = .ok (s1, f) ∧
          s' = { s1 with sendBuf := [] } ∧ fs = [f])) := by
  unfold Stream.writeMessage
  cases s.sendEOM with
  | true => exact ⟨fun h => (nomatch h), fun h => nomatch h.1⟩
  | false =>
    rw [if_neg Bool.false_ne_true, and_iff_right rfl]
    rcases Nat.lt_or_ge (s.sendBuf ++ d).length frameThreshold with hlt | hge
    · rw [if_neg (Nat.not_le.mpr hlt), or_iff_left (fun h => Nat.not_le.mpr hlt h.1), and_iff_right hlt]
      exact ⟨fun h => by cases h; exact ⟨rfl, rfl⟩, fun ⟨h1, h2⟩ => by rw [h1, h2]⟩
    · -- the threshold is positive, so what is flushed is not empty
      have hne : (s.sendBuf ++ d).isEmpty = false :=
        List.isEmpty_eq_false_iff.mpr (List.ne_nil_of_length_pos (Nat.lt_of_lt_of_le (by decide) hge))
      rw [if_pos hge, or_iff_right (fun h => Nat.not_le.mpr h.1 hge), and_iff_right hge, flushPartial_ok]
      exact ⟨fun h => h.elim (fun h => nomatch hne.symm.trans h.1) (·.2),
             fun h => .inr ⟨hne, h⟩⟩

theorem endMessage_ok {s s' : Stream} {fs : List WireFrame} :
    s.endMessage = .ok (s', fs) ↔
      s.sendEOM = false ∧ ∃ s1 f, ({ s with sendEOM := true } : Stream).sendFrame s.sendBuf 1 = .ok (s1, f) ∧
        s' = { s1 with sendBuf := [] } ∧ fs = [f] := by
  unfold Stream.endMessage
  cases s.sendEOM with
  | true => exact ⟨fun h => (nomatch h), fun h => nomatch h.1⟩
  | false =>
    rw [if_neg Bool.false_ne_true, and_iff_right rfl]
    dsimp only
    cases ({ s with sendEOM := true } : Stream).sendFrame s.sendBuf 1 with
    | error e => exact ⟨fun h => (nomatch h), fun ⟨_, _, h, _⟩ => nomatch h⟩
    | ok r =>
      exact ⟨fun h => by cases h; exact ⟨_, _, rfl, rfl, rfl⟩, fun ⟨_, _, h, h1, h2⟩ => by cases h; rw [h1, h2]⟩

theorem putSecret_ok {s s' : Stream} {d : Bytes} {f : WireFrame} :
    s.putSecret d = .ok (s', f) ↔
      ∃ s1, s.prepareSecret.sendFrame (d ++ [0]) 1 = .ok (s1, f) ∧ s' = s1.restoreSecret := by
  unfold Stream.putSecret
  cases s.prepareSecret.sendFrame (d ++ [0]) 1 with
  | error e => exact ⟨fun h => (nomatch h), fun ⟨_, h, _⟩ => nomatch h⟩
  | ok r => exact ⟨fun h => by cases h; exact ⟨_, rfl, rfl⟩, fun ⟨_, h, h1⟩ => by cases h; rw [h1]⟩

theorem getSecret_ok {s s' : Stream} {g : WireFrame} {d : Bytes} :
    s.getSecret g = .ok (s', d) ↔
      ∃ s1 p, s.prepareSecret.recvFrame g = .ok (s1, p) ∧ s' = s1.restoreSecret ∧ d = stripNul p := by
  unfold Stream.getSecret
  cases s.prepareSecret.recvFrame g with
  | error e => exact ⟨fun h => (nomatch h), fun ⟨_, _, h, _⟩ => nomatch h⟩
  | ok r => exact ⟨fun h => by cases h; exact ⟨_, _, rfl, rfl, rfl⟩, fun ⟨_, _, h, h1, h2⟩ => by cases h; rw [h1, h2]⟩

/-- `prepareCryptoForSecret` (stream.go) -/
theorem prepareSecret_eq (s : Stream) :
    s.prepareSecret = { s with beforeSecret := s.encrypted, encrypted := s.key.isSome || s.encrypted } := by
  unfold Stream.prepareSecret
  dsimp only
  cases s.key.isSome <;> cases s.encrypted <;> rfl

theorem setCryptoMode_fst (s : Stream) (on : Bool) :
    (s.setCryptoMode on).1 = { s with encrypted := on && (s.key.isSome || s.encrypted) } := by
  unfold Stream.setCryptoMode
  cases on <;> cases s.key.isSome <;> rfl

/-! A stream is written `s.withSend b e` or `s.withRd b n t i`: protocol state `s` and the buffering
fields of one direction, which the frame-level calls neither read nor write. -/

def Stream.withSend (s : Stream) (b : Bytes) (e : Bool) : Stream := { s with sendBuf := b, sendEOM := e }

def Stream.withRd (s : Stream) (b : Bytes) (n t : Nat) (i : Bool) : Stream :=
  { s with recvBuf := b, bytesRead := n, totalMsg := t, inMessage := i }

theorem withSend_self (s : Stream) : s.withSend s.sendBuf s.sendEOM = s := by cases s; rfl

theorem withRd_self (s : Stream) : s.withRd s.recvBuf s.bytesRead s.totalMsg s.inMessage = s := by cases s; rfl

theorem startMessage_withSend (s : Stream) (b : Bytes) (e : Bool) :
    (s.withSend b e).startMessage = s.withSend [] false := rfl

theorem sendFrame_withSend {s s' : Stream} {b : Bytes} {e : Bool} {d : Bytes} {fl : Nat} {f : WireFrame} :
    (s.withSend b e).sendFrame d fl = .ok (s', f) ↔ ∃ t, s.sendFrame d fl = .ok (t, f) ∧ s' = t.withSend b e := by
  rcases crypting_cases s with hc | ⟨k, hk, he⟩
  · rw [sendFrame_plain_ok (s := s.withSend b e) hc]
    constructor
    · rintro ⟨h1, rfl, rfl⟩; exact ⟨_, (sendFrame_plain_ok hc).mpr ⟨h1, rfl, rfl⟩, rfl⟩
    · rintro ⟨t, h, rfl⟩; obtain ⟨h1, rfl, rfl⟩ := (sendFrame_plain_ok hc).mp h; exact ⟨h1, rfl, rfl⟩
  · rw [sendFrame_keyed_ok (s := s.withSend b e) hk he]
    constructor
    · rintro ⟨h1, h2, rfl, rfl⟩; exact ⟨_, (sendFrame_keyed_ok hk he).mpr ⟨h1, h2, rfl, rfl⟩, rfl⟩
    · rintro ⟨t, h, rfl⟩; obtain ⟨h1, h2, rfl, rfl⟩ := (sendFrame_keyed_ok hk he).mp h; exact ⟨h1, h2, rfl, rfl⟩

/-- as an equation, failures included: a run along a wire stops at the first one -/
theorem recvFrameWithEnd_withRd (s : Stream) (b : Bytes) (n t : Nat) (i : Bool) (f : WireFrame) :
    (s.withRd b n t i).recvFrameWithEnd f =
      match s.recvFrameWithEnd f with
      | .error e => .error e
      | .ok (s1, d, fl) => .ok (s1.withRd b n t i, d, fl) := by
  have hc : (s.withRd b n t i).crypting = s.crypting := rfl
  have hk : (s.withRd b n t i).key = s.key := rfl
  have he : (s.withRd b n t i).encrypted = s.encrypted := rfl
  have ho : ∀ k, (s.withRd b n t i).openBody k f = s.openBody k f := fun _ => rfl
  unfold Stream.recvFrameWithEnd
  cases checkHdr f with
  | error e => rfl
  | ok u =>
    rw [hc, hk, he]
    by_cases h0 : f.len = 0
    · rw [if_pos h0, if_pos h0]
      cases s.crypting <;> rfl
    · rw [if_neg h0, if_neg h0]
      cases s.key with
      | none => cases f.body <;> rfl
      | some k =>
        cases s.encrypted with
        | false => cases f.body <;> rfl
        | true =>
          dsimp only
          rw [ho]
          cases s.openBody k f <;> rfl

theorem sendAll_cons_ok {s s' : Stream} {d : Bytes} {fl : Nat} {rest : List SendOp} {sent : List WireFrame} :
    s.sendAll ((d, fl) :: rest) = .ok (s', sent) ↔
      ∃ s1 f fs, s.sendFrame d fl = .ok (s1, f) ∧ s1.sendAll rest = .ok (s', fs) ∧ sent = f :: fs := by
  rw [Stream.sendAll]
  cases s.sendFrame d fl with
  | error e => exact ⟨fun h => (by cases h), fun ⟨_, _, _, h, _⟩ => (by cases h)⟩
  | ok x =>
    obtain ⟨s1, f⟩ := x
    dsimp only
    cases hr : s1.sendAll rest with
    | error e =>
      exact ⟨fun h => (by cases h), fun ⟨_, _, _, h, h', _⟩ => (by cases h; rw [hr] at h'; cases h')⟩
    | ok y =>
      exact ⟨fun h => (by cases h; exact ⟨_, _, _, rfl, hr, rfl⟩),
             fun ⟨_, _, _, h, h', e⟩ => (by cases h; rw [hr] at h'; cases h'; rw [e])⟩

theorem sendAll_append_of_ok : ∀ {ops1 ops2 : List SendOp} {s s1 s2 : Stream} {fs gs : List WireFrame},
    s.sendAll ops1 = .ok (s1, fs) → s1.sendAll ops2 = .ok (s2, gs) →
    s.sendAll (ops1 ++ ops2) = .ok (s2, fs ++ gs)
  | [], _, _, _, _, _, _, h1, h2 => by cases h1; exact h2
  | (d, fl) :: rest, _, _, _, _, _, _, h1, h2 => by
    obtain ⟨sa, f, hs, hsf, hr, rfl⟩ := sendAll_cons_ok.mp h1
    exact sendAll_cons_ok.mpr ⟨sa, f, _, hsf, sendAll_append_of_ok hr h2, rfl⟩

theorem startMessageRead_ok {s s' : Stream} {w w' : List WireFrame} :
    s.startMessageRead w = .ok (s', w') ↔
      s.inMessage = false ∧
      ∃ s1, s.readNextFrame w = .ok (s1, w') ∧ s' = { s1 with inMessage := true, bytesRead := 0 } := by
  unfold Stream.startMessageRead
  cases s.inMessage with
  | true => exact ⟨fun h => (nomatch h), fun h => nomatch h.1⟩
  | false =>
    rw [if_neg Bool.false_ne_true, and_iff_right rfl]
    cases s.readNextFrame w with
    | error e => exact ⟨fun h => (nomatch h), fun ⟨_, h, _⟩ => nomatch h⟩
    | ok r => exact ⟨fun h => by cases h; exact ⟨_, rfl, rfl⟩, fun ⟨_, h, h1⟩ => by cases h; rw [h1]⟩

theorem endMessageRead_of_consumed {s : Stream} (hin : s.inMessage = true) (hall : s.totalMsg ≤ s.bytesRead) :
    s.endMessageRead = .ok { s with inMessage := false, recvBuf := [], bytesRead := 0, totalMsg := 0 } := by
  rw [Stream.endMessageRead, if_neg (by rw [hin]; decide), if_neg (Nat.not_lt.mpr hall)]

theorem recvThen_ok {β : Type} {x : Except Err (Stream × Bytes × Nat)} {k : Stream → Bytes → Nat → Except Err β}
    {y : β} :
    (match x with
      | .error e => .error e
      | .ok (s1, d, fl) => k s1 d fl) = Except.ok y ↔ ∃ s1 d fl, x = .ok (s1, d, fl) ∧ k s1 d fl = .ok y := by
  cases x with
  | error e => exact ⟨fun h => (nomatch h), fun ⟨_, _, _, h, _⟩ => nomatch h⟩
  | ok r => exact ⟨fun h => ⟨_, _, _, rfl, h⟩, fun ⟨_, _, _, h, hx⟩ => by cases h; exact hx⟩

theorem recvCompleteAux_cons_ok {s : Stream} {acc : Bytes} {f : WireFrame} {w : List WireFrame}
    {x : Stream × Bytes × List WireFrame} :
    s.recvCompleteAux acc (f :: w) = .ok x ↔
      ∃ s1 d fl, s.recvFrameWithEnd f = .ok (s1, d, fl) ∧
        ((fl = 1 ∧ x = (s1, acc ++ d, w)) ∨ (fl = 0 ∧ s1.recvCompleteAux (acc ++ d) w = .ok x)) := by
  rw [Stream.recvCompleteAux]
  refine recvThen_ok.trans
    (exists_congr fun s1 => exists_congr fun d => exists_congr fun fl => and_congr_right fun _ => ?_)
  by_cases h1 : fl = 1
  · rw [if_pos h1]
    exact ⟨fun h => by cases h; exact .inl ⟨h1, rfl⟩,
           fun h => h.elim (fun h => by rw [h.2]) (fun h => absurd (h.1 ▸ h1) Nat.zero_ne_one)⟩
  · rw [if_neg h1]
    by_cases h0 : fl = 0
    · rw [if_pos h0]
      exact ⟨fun h => .inr ⟨h0, h⟩, fun h => h.elim (fun h => absurd h.1 h1) (·.2)⟩
    · rw [if_neg h0]
      exact ⟨fun h => (nomatch h), fun h => h.elim (fun h => absurd h.1 h1) (fun h => absurd h.1 h0)⟩

theorem recvRestAux_cons_ok {s : Stream} {acc : Bytes} {f : WireFrame} {w : List WireFrame}
    {x : Stream × Bytes × List WireFrame} :
    s.recvRestAux acc (f :: w) = .ok x ↔
      ∃ s1 d fl, s.recvFrameWithEnd f = .ok (s1, d, fl) ∧
        ((fl ≠ 0 ∧ x = (s1, acc ++ d, w)) ∨ (fl = 0 ∧ s1.recvRestAux (acc ++ d) w = .ok x)) := by
  rw [Stream.recvRestAux]
  refine recvThen_ok.trans
    (exists_congr fun s1 => exists_congr fun d => exists_congr fun fl => and_congr_right fun _ => ?_)
  by_cases h0 : fl = 0
  · rw [if_neg (not_not_intro h0)]
    exact ⟨fun h => .inr ⟨h0, h⟩, fun h => h.elim (fun h => absurd h0 h.1) (·.2)⟩
  · rw [if_pos h0]
    exact ⟨fun h => by cases h; exact .inl ⟨h0, rfl⟩,
           fun h => h.elim (fun h => by rw [h.2]) (fun h => absurd h.1 h0)⟩

theorem readNextFrame_cons_ok {s : Stream} {f : WireFrame} {w : List WireFrame} {x : Stream × List WireFrame} :
    s.readNextFrame (f :: w) = .ok x ↔
      ∃ s1 d fl, s.recvFrameWithEnd f = .ok (s1, d, fl) ∧
        ((fl ≠ 0 ∧ x = (s1.withRd (s1.recvBuf ++ d) s1.bytesRead (s1.recvBuf ++ d).length s1.inMessage, w)) ∨
         (fl = 0 ∧ (s1.withRd (s1.recvBuf ++ d) s1.bytesRead (s1.recvBuf ++ d).length s1.inMessage).readNextFrame w
            = .ok x)) := by
  rw [Stream.readNextFrame]
  refine recvThen_ok.trans
    (exists_congr fun s1 => exists_congr fun d => exists_congr fun fl => and_congr_right fun _ => ?_)
  by_cases h0 : fl = 0
  · rw [if_pos h0]
    exact ⟨fun h => .inr ⟨h0, h⟩, fun h => h.elim (fun h => absurd h0 h.1) (·.2)⟩
  · rw [if_neg h0]
    exact ⟨fun h => by cases h; exact .inl ⟨h0, rfl⟩,
           fun h => h.elim (fun h => by rw [h.2]; rfl) (fun h => absurd h.1 h0)⟩

end Cedar
