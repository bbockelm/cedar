/-
  C02 / C04 / C12: what an honest keyed sender puts on the wire, and what an on-path adversary can
  make a keyed receiver accept: the list of frames `ReceiveFrameWithEnd` accepts (`Stream.accepted`)
  is a prefix of what was sent. What each receive loop makes of that list is in ReceivePaths.lean.
-/
import CedarProofs.StreamOps

namespace Cedar

/-- What the application handed to `sendMessageWithEnd`, plus the header length it got. -/
structure Item where
  flag : Nat
  len : Nat
  plain : Bytes
  deriving DecidableEq, Repr

/-- The seal an honest sender (key `k`, base IV `iv`, handshake digests `dg`) produces for its
    `c`-th protected frame. -/
def sealedAt (k : Nat) (iv : IV) (dg : Digest × Digest) (c : Nat) (it : Item) : Sealed :=
  ⟨k, iv.nonce c, ⟨if c = 0 then some dg else none, it.flag, it.len⟩, it.plain⟩

def frameAt (k : Nat) (iv : IV) (dg : Digest × Digest) (c : Nat) (it : Item) : WireFrame :=
  ⟨it.flag, it.len, .ct (if c = 0 then some iv else none) (sealedAt k iv dg c it)⟩

def Item.op (it : Item) : SendOp := (it.plain, it.flag)

/-- Sender side of an established protected direction at counter `c`. `dg`: the frozen digests in the
    sender's order (sent, received), which only the frame with counter 0 carries in its AAD (`fin`). -/
structure SendInv (s : Stream) (k : Nat) (iv : IV) (dg : Digest × Digest) (c : Nat) : Prop where
  key : s.key = some k
  enc : s.encrypted = true
  iv : s.encIV = iv
  ctr : s.encCtr = c
  fin : s.finSendAAD = decide (c ≠ 0)
  fs : s.dig.finalSend = some dg.1
  fr : s.dig.finalRecv = some dg.2
  bound : c ≤ counterLimit

theorem setKey_sendInv (s : Stream) (k : Nat) (iv : IV) :
    SendInv (s.setKey k iv) k iv (s.dig.fs, s.dig.fr) 0 :=
  ⟨rfl, rfl, rfl, rfl, rfl, rfl, rfl, Nat.zero_le _⟩

theorem sendFrame_spec {s s' : Stream} {k iv dg c data flag f}
    (h : SendInv s k iv dg c) (hs : s.sendFrame data flag = .ok (s', f)) :
    c < counterLimit ∧ f.len ≤ maxMessageSize ∧
    f = frameAt k iv dg c ⟨flag, f.len, data⟩ ∧
    f.len = data.length + tagLen + (if c = 0 then ivLen else 0) ∧
    SendInv s' k iv dg (c + 1) := by
  obtain ⟨hk, he, hiv, hc, hf, hfs, hfr, hb⟩ := h
  obtain ⟨hlen, hlim, rfl, rfl⟩ := (sendFrame_keyed_ok hk he).mp hs
  have hfs' := Dig.fs_of_final hfs
  have hfr' := Dig.fr_of_final hfr
  have hdig : ∀ b, (if s.finSendAAD then s.dig else s.dig.finalize).feedSend b = s.dig := fun b => by
    rw [Dig.finalize_of_final hfs hfr, ite_self, Dig.feedSend_of_final hfs]
  have hlt : c < counterLimit := Nat.lt_of_le_of_ne hb (hc ▸ hlim)
  refine ⟨hlt, hlen, ?_, by rw [← hc]; rfl,
    ⟨hk, he, hiv, congrArg (· + 1) hc, (decide_eq_true (Nat.succ_ne_zero c)).symm,
      (congrArg _ (hdig _)).trans hfs, (congrArg _ (hdig _)).trans hfr, hlt⟩⟩
  simp only [Stream.sealFrame, frameAt, sealedAt, hiv, hc, hf, hfs', hfr']
  -- both sides put the digests in the AAD exactly when `c = 0`
  cases c with
  | zero => rfl
  | succ n => rfl

def framesFrom (k : Nat) (iv : IV) (dg : Digest × Digest) : Nat → List Item → List WireFrame
  | _, [] => []
  | c, it :: rest => frameAt k iv dg c it :: framesFrom k iv dg (c + 1) rest

theorem sendAll_spec {k iv dg} : ∀ {ops : List SendOp} {s s' : Stream} {c : Nat} {sent : List WireFrame},
    SendInv s k iv dg c → s.sendAll ops = .ok (s', sent) →
    ∃ items, sent = framesFrom k iv dg c items ∧ items.map Item.op = ops ∧
      c + items.length ≤ counterLimit ∧ SendInv s' k iv dg (c + items.length) ∧
      ∀ j it, items[j]? = some it →
        it.len = it.plain.length + tagLen + (if c + j = 0 then ivLen else 0) ∧ it.len ≤ maxMessageSize
  | [], s, s', c, sent, hinv, h => by
    cases h
    exact ⟨[], rfl, rfl, hinv.bound, hinv, fun j it hj => by simp at hj⟩
  | (d, fl) :: rest, s, s', c, sent, hinv, h => by
    obtain ⟨s1, f, fs, hsf, hrest, rfl⟩ := sendAll_cons_ok.mp h
    obtain ⟨_, hmax, hf, hlen, hinv1⟩ := sendFrame_spec hinv hsf
    obtain ⟨items, rfl, rfl, hl, hinv2, hall⟩ := sendAll_spec hinv1 hrest
    have e : c + 1 + items.length = c + (items.length + 1) := by omega
    refine ⟨⟨fl, f.len, d⟩ :: items, by rw [framesFrom, ← hf], rfl, e ▸ hl, e ▸ hinv2, ?_⟩
    intro j it hj
    cases j with
    | zero => cases hj; exact ⟨hlen, hmax⟩
    | succ j => exact (show c + 1 + j = c + (j + 1) by omega) ▸ hall j it hj

def Known (k : Nat) (iv : IV) (dg : Digest × Digest) (c0 : Nat) (items : List Item) (s : Sealed) : Prop :=
  ∃ j it, items[j]? = some it ∧ s = sealedAt k iv dg (c0 + j) it

theorem known_of_mem_framesFrom {k iv dg} {f : WireFrame} {ivo : Option IV} {sl : Sealed}
    (hb : f.body = .ct ivo sl) :
    ∀ (items : List Item) (c : Nat), f ∈ framesFrom k iv dg c items → Known k iv dg c items sl
  | [], _, h => nomatch h
  | it :: rest, c, h => by
    rcases List.mem_cons.mp h with rfl | h
    · exact ⟨0, it, rfl, (Body.ct.inj hb).2.symm⟩
    · obtain ⟨j, it', hj, hs⟩ := known_of_mem_framesFrom hb rest (c + 1) h
      exact ⟨j + 1, it', hj, by rw [hs, Nat.add_right_comm, Nat.add_assoc]⟩

/-- A seal under the session key that did NOT come from this sender — in a two-party session:
    one of the receiver's own outgoing frames, reflected back at it. It carries a nonce of the
    other direction (never one of the sender's `iv.nonce a`), and if it carries digests at all (a
    first frame) its nonce is the receiver's own base IV `ownIV`, which the receiver refuses to
    accept as a peer's IV (`openBody`; F-C02-reflection). -/
def Foreign (iv ownIV : IV) (c : Sealed) : Prop :=
  (∀ a, c.nonce ≠ iv.nonce a) ∧ (c.aad.digests ≠ none → c.nonce = ownIV.nonce 0)

theorem foreign_of_mem_framesFrom {k : Nat} {ivS ivR : IV} {dgR : Digest × Digest} {cR : Nat} {itemsR : List Item}
    (hsep : ivS.tail ≠ ivR.tail)
    {f : WireFrame} (hf : f ∈ framesFrom k ivR dgR cR itemsR) {ivo : Option IV} {c : Sealed}
    (hb : f.body = .ct ivo c) : Foreign ivS ivR c := by
  obtain ⟨j, it, _, rfl⟩ := known_of_mem_framesFrom hb itemsR cR hf
  refine ⟨fun a h => ?_, ?_⟩
  · simp only [sealedAt, IV.nonce, IV.mk.injEq] at h
    exact hsep h.2.symm
  · simp only [sealedAt]
    by_cases hz : cR + j = 0
    · intro _; rw [hz]
    · rw [if_neg hz]; intro h; exact absurd rfl h

/-- A seal recorded on an earlier connection of the session, as seen from the current receiver:
    * its nonce was built from ANOTHER base IV — the 12-byte tail differs from the current sender's
      (`iv`): every connection draws a fresh random IV in each direction;
    * if it is a first frame (it carries digests) they are not the digest pair `rdg` the current
      receiver expects on its first protected frame: that connection's cleartext transcript was
      different (fresh `ResumeNonce` in the reply, F-C06-replay).
    Both parts are needed: at counter 0 the receiver takes the base IV from the frame itself, so
    only the digests tell an old first frame from the current one (cf. `C06.noreply_replay_fails`). -/
def OldSeal (iv : IV) (rdg : Digest × Digest) (c : Sealed) : Prop :=
  c.nonce.tail ≠ iv.tail ∧ c.aad.digests ≠ some rdg

/-- What the on-path adversary can put into a frame body: any bytes, and any seal, with the visible
    IV prefix kept, stripped or replaced (16 bytes of the wire: the leading word is a 32-bit value).
    It never makes a seal under `k` itself: such a seal is one it has seen, the sender's (`Known`),
    the receiver's own (`Foreign`), or one recorded on an earlier connection of the session (`OldSeal`). -/
def AdvFrameO (k : Nat) (iv : IV) (dg : Digest × Digest) (ownIV : IV) (rdg : Digest × Digest) (c0 : Nat)
    (items : List Item) (g : WireFrame) : Prop :=
  match g.body with
  | .raw _ => True
  | .ct ivo c => (∀ i, ivo = some i → i.w0 < 2^32) ∧
      (c.key = k → Known k iv dg c0 items c ∨ Foreign iv ownIV c ∨ OldSeal iv rdg c)

/-- `AdvFrameO` for an adversary with nothing recorded on earlier connections. -/
def AdvFrame (k : Nat) (iv : IV) (dg : Digest × Digest) (ownIV : IV) (c0 : Nat) (items : List Item) (g : WireFrame) : Prop :=
  match g.body with
  | .raw _ => True
  | .ct ivo c => (∀ i, ivo = some i → i.w0 < 2^32) ∧ (c.key = k → Known k iv dg c0 items c ∨ Foreign iv ownIV c)

theorem advFrame_advFrameO {k iv dg ownIV rdg c0 items g} (h : AdvFrame k iv dg ownIV c0 items g) :
    AdvFrameO k iv dg ownIV rdg c0 items g := by
  unfold AdvFrame at h; unfold AdvFrameO
  cases hb : g.body with
  | raw b => trivial
  | ct ivo c =>
    simp only [hb] at h ⊢
    exact ⟨h.1, fun hk => (h.2 hk).elim .inl (fun x => .inr (.inl x))⟩

/-- Receiver side: the direction was picked up at counter `c0` (0 on a fresh session, anything on an
    imported one), `m` honest frames accepted since. Before the first frame `decIV` is not set: the
    frame announces it. -/
structure RecvInv (r : Stream) (k : Nat) (iv : IV) (c0 m : Nat) : Prop where
  key : r.key = some k
  enc : r.encrypted = true
  ctr : r.decCtr = c0 + m
  fin : r.finRecvAAD = decide (c0 + m ≠ 0)
  iv : c0 + m ≠ 0 → r.decIV = iv

/-- `hown` is about the first frame only: later ones carry no digests, and the base IV is fixed. -/
theorem openBody_only_next {r : Stream} {k iv dg ownIV rdg c0 m items g ivr p}
    (hiv : iv.w0 < 2^32) (hlim : c0 + items.length ≤ counterLimit) (hm : m ≤ items.length)
    (hr : RecvInv r k iv c0 m)
    (hown : c0 + m = 0 → r.encIV = ownIV ∧ ownIV.w0 < 2^32 ∧ (r.dig.fr, r.dig.fs) = rdg)
    (hg : AdvFrameO k iv dg ownIV rdg c0 items g)
    (h : r.openBody k g = .ok (ivr, p)) :
    ∃ it, items[m]? = some it ∧ g = frameAt k iv dg (c0 + m) it ∧ ivr = iv ∧ p = it.plain ∧
      (c0 + m = 0 → dg = (r.dig.fr, r.dig.fs)) := by
  obtain ⟨ivo, c, hb, hck, rfl, hcn, hca, hivo⟩ := openBody_ok h
  obtain ⟨hw, hcl⟩ : (∀ i, ivo = some i → i.w0 < 2^32) ∧
      (c.key = k → Known k iv dg c0 items c ∨ Foreign iv ownIV c ∨ OldSeal iv rdg c) := by
    simpa only [AdvFrameO, hb] using hg
  rw [hr.ctr] at hcn hivo
  rw [hr.fin] at hca
  by_cases hz : c0 + m = 0
  · -- first protected frame of the direction: the base IV comes from the frame itself
    rw [hz] at hcn
    rw [if_pos hz] at hivo
    replace hca : c.aad = ⟨some (r.dig.fr, r.dig.fs), g.flag, g.len⟩ := by
      rw [hca, decide_eq_false (fun h => h hz)]; rfl
    obtain ⟨rfl, hne⟩ := hivo
    obtain ⟨hoe, how, hrdg⟩ := hown hz
    rcases hcl hck with ⟨j, it, hj, rfl⟩ | hf | ho
    · -- the AAD carries digests, so the seal is the sender's first one; its nonce gives the IV
      have hj0 : c0 + j = 0 := Decidable.by_contra fun hh => by
        simp only [sealedAt, if_neg hh, Aad.mk.injEq, reduceCtorEq, false_and] at hca
      have hii : ivr = iv := (nonce_zero_inj hiv (hw ivr rfl) (by simpa [sealedAt, hj0] using hcn)).symm
      have hjm : j = m := by omega
      subst hii hjm
      simp only [sealedAt, hj0, if_true, Aad.mk.injEq, Option.some.injEq] at hca
      refine ⟨it, hj, ?_, rfl, rfl, fun _ => hca.1⟩
      cases g
      simp only [frameAt, hz, if_true, WireFrame.mk.injEq] at hb ⊢
      exact ⟨hca.2.1.symm, hca.2.2.symm, hb⟩
    · -- a reflected seal that carries digests was sealed at the receiver's own base IV, counter 0:
      -- the IV the frame announces is the receiver's own, which `openBody` refuses (F-C02-reflection)
      have hc0 : c.nonce = ownIV.nonce 0 := hf.2 (by rw [hca]; exact Option.some_ne_none _)
      have hio : ivr = ownIV := nonce_zero_inj (hw ivr rfl) how (hcn.symm.trans hc0)
      exact absurd (hio.trans hoe.symm) hne
    · exact absurd (by rw [hca, hrdg]) ho.2
  · -- a later frame: the base IV is already fixed
    rw [if_neg hz] at hivo
    replace hca : c.aad = ⟨none, g.flag, g.len⟩ := by rw [hca, decide_eq_true hz]; rfl
    obtain ⟨rfl, rfl⟩ := hivo
    rw [hr.iv hz] at hcn ⊢
    rcases hcl hck with ⟨j, it, hj, rfl⟩ | hf | ho
    · have hjl : j < items.length := (List.getElem?_eq_some_iff.mp hj).1
      have hjm : c0 + j = c0 + m := nonce_inj (by omega) (by omega) hcn
      have hjm' : j = m := by omega
      subst hjm'
      simp only [sealedAt, hz, if_false, Aad.mk.injEq, true_and] at hca
      refine ⟨it, hj, ?_, rfl, rfl, fun h => absurd h hz⟩
      cases g
      simp only [frameAt, hz, if_false, WireFrame.mk.injEq] at hb ⊢
      exact ⟨hca.1.symm, hca.2.symm, hb⟩
    · exact absurd hcn (hf.1 _)
    · exact absurd (by rw [hcn]; rfl) ho.1

theorem setKey_recvInv (r : Stream) (k : Nat) (ivR iv : IV) : RecvInv (r.setKey k ivR) k iv 0 0 :=
  ⟨rfl, rfl, rfl, rfl, fun h => absurd rfl h⟩

theorem afterOpen_recvInv {r : Stream} {k iv c0 m} (hr : RecvInv r k iv c0 m) (b : Bytes) :
    RecvInv ((r.afterOpen iv).feedRecv b) k iv c0 (m + 1) :=
  ⟨hr.key, hr.enc, congrArg (· + 1) hr.ctr, (decide_eq_true (Nat.succ_ne_zero _)).symm, fun _ => rfl⟩

theorem recvFrameWithEnd_only_next {r r' : Stream} {k iv dg ownIV rdg c0 m items g d fl}
    (hiv : iv.w0 < 2^32) (hlim : c0 + items.length ≤ counterLimit) (hm : m ≤ items.length)
    (hr : RecvInv r k iv c0 m)
    (hown : c0 + m = 0 → r.encIV = ownIV ∧ ownIV.w0 < 2^32 ∧ (r.dig.fr, r.dig.fs) = rdg)
    (hg : AdvFrameO k iv dg ownIV rdg c0 items g)
    (h : r.recvFrameWithEnd g = .ok (r', d, fl)) :
    ∃ it, items[m]? = some it ∧ g = frameAt k iv dg (c0 + m) it ∧ (d, fl) = it.op ∧
      RecvInv r' k iv c0 (m + 1) := by
  obtain ⟨_, _, rfl, ivr, hopen, rfl⟩ := (recvFrameWithEnd_keyed_ok hr.key hr.enc).mp h
  obtain ⟨it, hit, rfl, rfl, rfl, _⟩ := openBody_only_next hiv hlim hm hr hown hg hopen
  exact ⟨it, hit, rfl, rfl, afterOpen_recvInv hr _⟩

/-- What `ReceiveFrameWithEnd` hands the layers above it along the wire `w`: payload and end flag of
    each frame, up to the first one it refuses. Every receive loop is a function of this list. -/
def Stream.accepted : Stream → List WireFrame → List SendOp
  | _, [] => []
  | r, g :: w =>
    match r.recvFrameWithEnd g with
    | .error _ => []
    | .ok (r', d, fl) => (d, fl) :: r'.accepted w

theorem accepted_cons {r r' : Stream} {g : WireFrame} {d : Bytes} {fl : Nat}
    (h : r.recvFrameWithEnd g = .ok (r', d, fl)) (w : List WireFrame) :
    r.accepted (g :: w) = (d, fl) :: r'.accepted w := by
  rw [Stream.accepted, h]

theorem accepted_prefix {k iv dg ownIV rdg c0 items}
    (hiv : iv.w0 < 2^32) (hlim : c0 + items.length ≤ counterLimit) :
    ∀ (w : List WireFrame) (r : Stream) (m : Nat), m ≤ items.length → RecvInv r k iv c0 m →
      (c0 + m = 0 → r.encIV = ownIV ∧ ownIV.w0 < 2^32 ∧ (r.dig.fr, r.dig.fs) = rdg) →
      (∀ g ∈ w, AdvFrameO k iv dg ownIV rdg c0 items g) →
      r.accepted w <+: (items.drop m).map Item.op
  | [], _, _, _, _, _, _ => List.nil_prefix
  | g :: w, r, m, hm, hr, hown, hadv => by
    cases hrecv : r.recvFrameWithEnd g with
    | error e => rw [Stream.accepted, hrecv]; exact List.nil_prefix
    | ok x =>
      obtain ⟨r', d, fl⟩ := x
      rw [accepted_cons hrecv]
      obtain ⟨it, hit, _, hop, hr'⟩ :=
        recvFrameWithEnd_only_next hiv hlim hm hr hown (hadv g (List.mem_cons_self ..)) hrecv
      obtain ⟨hml, rfl⟩ := List.getElem?_eq_some_iff.mp hit
      rw [List.drop_eq_getElem_cons hml, List.map_cons, hop]
      exact (List.prefix_cons_inj _).mpr (accepted_prefix hiv hlim w r' (m + 1) hml hr' (fun h => by omega)
        (fun g hg => hadv g (List.mem_cons_of_mem _ hg)))

end Cedar
