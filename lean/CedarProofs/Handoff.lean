/-
  Helper lemmas for C15: once both first frames have passed, nothing a stream does depends on its
  transcript digests, so two streams that agree on every other field behave identically.
-/
import CedarModel.Export
import CedarProofs.Step

namespace Cedar

/-- equal up to the digest bookkeeping and two scratch fields, with both first-frame flags set:
    `beforeSecret` is overwritten before every use; `totalMsg` is read by `EndMessageRead` alone, so
    it is dead only while `inMessage = false` (as after an export), not inside an incremental read -/
def Sim (s t : Stream) : Prop :=
  (∃ d b m, t = { s with dig := d, beforeSecret := b, totalMsg := m }) ∧ s.finSendAAD = true ∧ s.finRecvAAD = true

theorem Sim.refl' {s : Stream} (h1 : s.finSendAAD = true) (h2 : s.finRecvAAD = true) : Sim s s :=
  ⟨⟨s.dig, s.beforeSecret, s.totalMsg, rfl⟩, h1, h2⟩

theorem Sim.symm {s t : Stream} (h : Sim s t) : Sim t s := by
  obtain ⟨⟨d, b, m, rfl⟩, h1, h2⟩ := h
  exact ⟨⟨s.dig, s.beforeSecret, s.totalMsg, rfl⟩, h1, h2⟩

theorem Sim.key {s t : Stream} (h : Sim s t) : t.key = s.key := by
  obtain ⟨⟨d, b, m, rfl⟩, _⟩ := h; rfl

theorem Sim.encrypted {s t : Stream} (h : Sim s t) : t.encrypted = s.encrypted := by
  obtain ⟨⟨d, b, m, rfl⟩, _⟩ := h; rfl

theorem Sim.crypting {s t : Stream} (h : Sim s t) : t.crypting = s.crypting := by
  obtain ⟨⟨d, b, m, rfl⟩, _⟩ := h; rfl

theorem Sim.map {s t : Stream} (h : Sim s t) (f : Stream → Stream)
    (hf : ∀ (u : Stream) (d : Dig) (b : Bool) (m : Nat),
      f { u with dig := d, beforeSecret := b, totalMsg := m } = { f u with dig := d, beforeSecret := b, totalMsg := m })
    (h1 : (f s).finSendAAD = s.finSendAAD) (h2 : (f s).finRecvAAD = s.finRecvAAD) : Sim (f s) (f t) := by
  obtain ⟨⟨d, b, m, rfl⟩, hfs, hfr⟩ := h
  exact ⟨⟨d, b, m, hf s d b m⟩, by rw [h1, hfs], by rw [h2, hfr]⟩

/-- one direction only: the other is the same lemma at `Sim.symm` -/
def SimR {α : Type} (x y : Except Err (Stream × α)) : Prop :=
  ∀ ⦃s a⦄, x = .ok (s, a) → ∃ t, y = .ok (t, a) ∧ Sim s t

/-- with the first-frame flag set the seal does not mention the digests -/
theorem sendFrame_sim {s t : Stream} (h : Sim s t) {d : Bytes} {fl : Nat} :
    SimR (s.sendFrame d fl) (t.sendFrame d fl) := by
  intro s' f hs
  rcases crypting_cases s with hc | ⟨k, hk, he⟩
  · have hc' := h.crypting.trans hc
    obtain ⟨⟨d0, b0, m0, rfl⟩, hfs, hfr⟩ := h
    obtain ⟨h1, rfl, rfl⟩ := (sendFrame_plain_ok hc).mp hs
    exact ⟨_, (sendFrame_plain_ok hc').mpr ⟨h1, rfl, rfl⟩, ⟨_, b0, m0, rfl⟩, hfs, hfr⟩
  · have hk' := h.key.trans hk
    have he' := h.encrypted.trans he
    obtain ⟨⟨d0, b0, m0, rfl⟩, hfs, hfr⟩ := h
    obtain ⟨h1, h2, rfl, rfl⟩ := (sendFrame_keyed_ok hk he).mp hs
    refine ⟨_, (sendFrame_keyed_ok hk' he').mpr ⟨h1, h2, ?_, rfl⟩, ⟨_, b0, m0, rfl⟩, rfl, hfr⟩
    unfold Stream.sealFrame
    simp only [hfs, if_true]

theorem Sim.buffered {s t : Stream} (h : Sim s t) (f : Bytes → Bool → Bytes × Bool) :
    Sim { s with sendBuf := (f s.sendBuf s.sendEOM).1, sendEOM := (f s.sendBuf s.sendEOM).2 }
        { t with sendBuf := (f t.sendBuf t.sendEOM).1, sendEOM := (f t.sendBuf t.sendEOM).2 } :=
  h.map (fun u => { u with sendBuf := (f u.sendBuf u.sendEOM).1, sendEOM := (f u.sendBuf u.sendEOM).2 })
    (fun _ _ _ _ => rfl) rfl rfl

theorem writeMessage_sim {s t : Stream} (h : Sim s t) {d : Bytes} : SimR (s.writeMessage d) (t.writeMessage d) := by
  intro s' fs hs
  have h' := h.buffered fun b e => (b ++ d, e)
  obtain ⟨d0, b0, m0, rfl⟩ := h.1
  obtain ⟨h1, ⟨hlt, rfl, rfl⟩ | ⟨hge, s1, f, hsf, rfl, rfl⟩⟩ := writeMessage_ok.mp hs
  · exact ⟨_, writeMessage_ok.mpr ⟨h1, .inl ⟨hlt, rfl, rfl⟩⟩, h'⟩
  · obtain ⟨t1, ht, hs1⟩ := sendFrame_sim h' hsf
    exact ⟨_, writeMessage_ok.mpr ⟨h1, .inr ⟨hge, t1, f, ht, rfl, rfl⟩⟩, hs1.buffered fun _ e => ([], e)⟩

theorem endMessage_sim {s t : Stream} (h : Sim s t) : SimR s.endMessage t.endMessage := by
  intro s' fs hs
  have h' := h.buffered fun b _ => (b, true)
  obtain ⟨d0, b0, m0, rfl⟩ := h.1
  obtain ⟨h1, s1, f, hsf, rfl, rfl⟩ := endMessage_ok.mp hs
  obtain ⟨t1, ht, hs1⟩ := sendFrame_sim h' hsf
  exact ⟨_, endMessage_ok.mpr ⟨h1, t1, f, ht, rfl, rfl⟩, hs1.buffered fun _ e => ([], e)⟩

theorem openBody_sim {s t : Stream} (h : Sim s t) (k : Nat) (f : WireFrame) : t.openBody k f = s.openBody k f := by
  obtain ⟨⟨d, b, m, rfl⟩, _, hfr⟩ := h
  unfold Stream.openBody
  simp only [hfr, if_true]

theorem recvFrameWithEnd_sim {s t : Stream} (h : Sim s t) {g : WireFrame} :
    SimR (s.recvFrameWithEnd g) (t.recvFrameWithEnd g) := by
  intro s' a hs
  have ho := openBody_sim h
  rcases crypting_cases s with hc | ⟨k, hk, he⟩
  · have hc' := h.crypting.trans hc
    obtain ⟨⟨d0, b0, m0, rfl⟩, hfs, hfr⟩ := h
    obtain ⟨h1, h2, h3, rfl⟩ := (recvFrameWithEnd_plain_ok hc).mp hs
    exact ⟨_, (recvFrameWithEnd_plain_ok hc').mpr ⟨h1, h2, h3, rfl⟩, ⟨_, b0, m0, rfl⟩, hfs, hfr⟩
  · have hk' := h.key.trans hk
    have he' := h.encrypted.trans he
    obtain ⟨⟨d0, b0, m0, rfl⟩, hfs, hfr⟩ := h
    obtain ⟨h1, h2, h3, iv, h4, rfl⟩ := (recvFrameWithEnd_keyed_ok hk he).mp hs
    exact ⟨_, (recvFrameWithEnd_keyed_ok hk' he').mpr ⟨h1, h2, h3, iv, (ho k g).trans h4, rfl⟩,
      ⟨_, b0, m0, rfl⟩, hfs, rfl⟩

theorem recvFrame_sim {s t : Stream} (h : Sim s t) {g : WireFrame} : SimR (s.recvFrame g) (t.recvFrame g) := by
  intro s' d hs
  rcases recvFrame_ok.mp hs with ⟨h0, h1, hc, rfl, rfl⟩ | ⟨h0, hs⟩
  · exact ⟨t, recvFrame_ok.mpr (.inl ⟨h0, h1, h.crypting.trans hc, rfl, rfl⟩), h⟩
  · obtain ⟨t', ht, hs'⟩ := recvFrameWithEnd_sim h hs
    exact ⟨t', recvFrame_ok.mpr (.inr ⟨h0, ht⟩), hs'⟩

/-- both sides enter the frame-level call with the same saved mode, and that call keeps it -/
theorem Sim.prepareSecret {s t : Stream} (h : Sim s t) :
    Sim s.prepareSecret t.prepareSecret ∧ t.prepareSecret.beforeSecret = s.prepareSecret.beforeSecret := by
  obtain ⟨⟨d, b, m, rfl⟩, hfs, hfr⟩ := h
  rw [prepareSecret_eq, prepareSecret_eq]
  exact ⟨⟨⟨d, s.encrypted, m, rfl⟩, hfs, hfr⟩, rfl⟩

theorem Sim.restoreSecret {s t : Stream} (h : Sim s t) (hb : t.beforeSecret = s.beforeSecret) :
    Sim s.restoreSecret t.restoreSecret := by
  obtain ⟨⟨d, b, m, rfl⟩, hfs, hfr⟩ := h
  cases (hb : b = s.beforeSecret)
  exact ⟨⟨d, s.beforeSecret, m, rfl⟩, hfs, hfr⟩

theorem putSecret_sim {s t : Stream} (h : Sim s t) {d : Bytes} : SimR (s.putSecret d) (t.putSecret d) := by
  intro s' f hs
  obtain ⟨s1, hsf, rfl⟩ := putSecret_ok.mp hs
  obtain ⟨hp, hb⟩ := h.prepareSecret
  obtain ⟨t1, ht, h1⟩ := sendFrame_sim hp hsf
  exact ⟨_, putSecret_ok.mpr ⟨t1, ht, rfl⟩,
    h1.restoreSecret (by rw [(sendFrame_mode hsf).2, (sendFrame_mode ht).2, hb])⟩

theorem getSecret_sim {s t : Stream} (h : Sim s t) {g : WireFrame} : SimR (s.getSecret g) (t.getSecret g) := by
  intro s' d hs
  obtain ⟨s1, p, hr, rfl, rfl⟩ := getSecret_ok.mp hs
  obtain ⟨hp, hb⟩ := h.prepareSecret
  obtain ⟨t1, ht, h1⟩ := recvFrame_sim hp hr
  exact ⟨_, getSecret_ok.mpr ⟨t1, p, ht, rfl, rfl⟩,
    h1.restoreSecret (by rw [(recvFrame_keeps_send_half hr).2.2.2.2, (recvFrame_keeps_send_half ht).2.2.2.2, hb])⟩

theorem setCryptoMode_sim {s t : Stream} (h : Sim s t) (on : Bool) :
    Sim (s.setCryptoMode on).1 (t.setCryptoMode on).1 := by
  obtain ⟨⟨d, b, m, rfl⟩, hfs, hfr⟩ := h
  rw [setCryptoMode_fst, setCryptoMode_fst]
  exact ⟨⟨d, b, m, rfl⟩, hfs, hfr⟩

theorem SimR.both {α : Type} {x y : Except Err (Stream × α)} (hxy : SimR x y) (hyx : SimR y x) :
    (∃ e e', x = .error e ∧ y = .error e') ∨ (∃ s t a, x = .ok (s, a) ∧ y = .ok (t, a) ∧ Sim s t) := by
  cases x with
  | ok r => obtain ⟨t, rfl, h⟩ := hxy rfl; exact .inr ⟨_, _, _, rfl, rfl, h⟩
  | error e =>
    cases y with
    | error e' => exact .inl ⟨_, _, rfl, rfl⟩
    | ok r => obtain ⟨_, h, _⟩ := hyx rfl; cases h

theorem okOr_sim {α : Type} {s t : Stream} (h : Sim s t) {x y : Except Err (Stream × α)}
    (hxy : SimR x y) (hyx : SimR y x) (emit : α → List WireFrame) :
    (okOr s x emit).2 = (okOr t y emit).2 ∧ Sim (okOr s x emit).1 (okOr t y emit).1 := by
  rcases hxy.both hyx with ⟨_, _, rfl, rfl⟩ | ⟨_, _, _, rfl, rfl, h'⟩
  · exact ⟨rfl, h⟩
  · exact ⟨rfl, h'⟩

theorem step_sim {s t : Stream} (h : Sim s t) (op : Op) :
    (s.step op).2 = (t.step op).2 ∧ Sim (s.step op).1 (t.step op).1 := by
  have h' := h.symm
  cases op with
  | send d fl => exact okOr_sim h (sendFrame_sim h) (sendFrame_sim h') _
  | write d => exact okOr_sim h (writeMessage_sim h) (writeMessage_sim h') _
  | endMsg => exact okOr_sim h (endMessage_sim h) (endMessage_sim h') _
  | startMsg => exact ⟨rfl, h.buffered fun _ _ => ([], false)⟩
  | secret d => exact okOr_sim h (putSecret_sim h) (putSecret_sim h') _
  | crypto on => exact ⟨rfl, setCryptoMode_sim h on⟩
  | recv f => exact okOr_sim h (recvFrameWithEnd_sim h) (recvFrameWithEnd_sim h') _
  | recvPlain f => exact okOr_sim h (recvFrame_sim h) (recvFrame_sim h') _
  | getSecret f => exact okOr_sim h (getSecret_sim h) (getSecret_sim h') _

theorem run_sim : ∀ (ops : List Op) {s t : Stream}, Sim s t →
    (s.run ops).2 = (t.run ops).2 ∧ Sim (s.run ops).1 (t.run ops).1
  | [], s, t, h => ⟨rfl, h⟩
  | op :: rest, s, t, h => by
    obtain ⟨h1, h2⟩ := step_sim h op
    obtain ⟨h3, h4⟩ := run_sim rest h2
    rw [Stream.run_cons, Stream.run_cons, h1, h3]
    exact ⟨rfl, h4⟩

/-- `recvRestAux` goes through word for word; the incremental API needs `s.inMessage = false` besides -/
theorem recvCompleteAux_sim : ∀ (w : List WireFrame) {s t : Stream} (acc : Bytes), Sim s t →
    SimR (s.recvCompleteAux acc w) (t.recvCompleteAux acc w)
  | [], s, t, acc, h => fun _ _ hs => nomatch hs
  | f :: w, s, t, acc, h => by
    intro s' a hs
    obtain ⟨s1, d, fl, hr, hx⟩ := recvCompleteAux_cons_ok.mp hs
    obtain ⟨t1, ht, h1⟩ := recvFrameWithEnd_sim h hr
    rcases hx with ⟨hf1, hx⟩ | ⟨hf0, hx⟩
    · cases hx; exact ⟨t1, recvCompleteAux_cons_ok.mpr ⟨t1, d, fl, ht, .inl ⟨hf1, rfl⟩⟩, h1⟩
    · obtain ⟨t', ht', hs'⟩ := recvCompleteAux_sim w (acc ++ d) h1 hx
      exact ⟨t', recvCompleteAux_cons_ok.mpr ⟨t1, d, fl, ht, .inr ⟨hf0, ht'⟩⟩, hs'⟩

theorem deliverFuel_sim : ∀ (n : Nat) {s t : Stream} (w : List WireFrame), Sim s t →
    Stream.deliverFuel n s w = Stream.deliverFuel n t w
  | 0, s, t, w, h => rfl
  | n + 1, s, t, w, h => by
    unfold Stream.deliverFuel Stream.recvComplete
    rcases (recvCompleteAux_sim w [] h).both (recvCompleteAux_sim w [] h.symm) with
      ⟨_, _, hx, hy⟩ | ⟨s1, t1, ⟨msg, w'⟩, hx, hy, hs⟩
    · rw [hx, hy]
    · rw [hx, hy]
      exact congrArg _ (deliverFuel_sim n w' hs)

end Cedar
