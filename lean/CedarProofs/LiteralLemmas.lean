/-
  For C08, decode side. The shortcut recognisers against the reference literal syntax: the decoder sees a
  number as `hasMinus t` / `stripMinus t`, the reference syntax as a match on the first byte; `sign_split`
  carries one view into the other. The old-ClassAd string fallback: `decodeOld` inverts the old quoting
  `oldRender`, with which `C08.old_string_roundtrip` is stated. `parseAndInsert_spec` is
  `parseAndInsertExpression` case by case, which the C08 theorems about it read off.
-/
import CedarModel.Literal
import CedarProofs.Util

namespace Cedar

theorem isDigit_iff (a : UInt8) : isDigit a = true ↔ 48 ≤ a.toNat ∧ a.toNat ≤ 57 := by
  simp [isDigit]

theorem digit_ne (a : UInt8) (h : isDigit a = true) (n : Nat) (hn : n < 48 ∨ 57 < n) : (a.toNat == n) = false := by
  rw [isDigit_iff] at h
  rw [beq_eq_false_iff_ne]
  omega

theorem head_digit (t : Bytes) (h : (digitsOf t).isEmpty = false) : ∃ a r, t = a :: r ∧ isDigit a = true := by
  cases t with
  | nil => cases h
  | cons a r =>
    refine ⟨a, r, rfl, ?_⟩
    rw [digitsOf, List.takeWhile_cons] at h
    by_cases hd : isDigit a = true
    · exact hd
    · rw [if_neg hd] at h; cases h

theorem spaceLen_digit (a : UInt8) (r : Bytes) (h : isDigit a = true) : spaceLen (a :: r) = 0 := by
  rw [isDigit_iff] at h
  unfold spaceLen
  dsimp only
  rw [if_neg, if_neg, if_neg, if_neg, if_neg]
  all_goals (simp; omega)

theorem trimLeft_of_spaceLen_zero (s : Bytes) (h : spaceLen s = 0) : trimLeft s = s := by
  unfold trimLeft
  cases hl : s.length with
  | zero => rfl
  | succ n => simp [trimAux, h]

theorem intTok_digits (u : Bytes) (h : intTok u = true) : (digitsOf u).isEmpty = false ∧ u.all isDigit = true := by
  unfold intTok at h
  simp only [Bool.and_eq_true, Bool.not_eq_true', List.isEmpty_iff] at h
  refine ⟨h.1.1, ?_⟩
  have := List.takeWhile_append_dropWhile (p := isDigit) (l := u)
  rw [show u.dropWhile isDigit = [] from h.1.2, List.append_nil] at this
  rw [← this]
  exact List.all_takeWhile

theorem pointReal_digits (u : Bytes) (h : pointReal u = true) : (digitsOf u).isEmpty = false := by
  unfold pointReal at h
  simp only [Bool.and_eq_true, Bool.not_eq_true'] at h
  exact h.1

theorem sign_split (t : Bytes) (hd : (digitsOf (stripMinus t)).isEmpty = false) :
    ∃ x y, isDigit x = true ∧ stripMinus t = x :: y ∧
      ((∃ a, (a.toNat == cMinus) = true ∧ t = a :: x :: y ∧ hasMinus t = true) ∨ (t = x :: y ∧ hasMinus t = false)) := by
  obtain ⟨x, y, hxy, hx⟩ := head_digit _ hd
  refine ⟨x, y, hx, hxy, ?_⟩
  cases t with
  | nil => cases hxy
  | cons a r =>
    by_cases ha : (a.toNat == cMinus) = true
    · simp only [stripMinus, ha, if_true] at hxy
      exact .inl ⟨a, ha, by rw [hxy], ha⟩
    · simp only [stripMinus, ha] at hxy
      cases hxy
      exact .inr ⟨rfl, Bool.eq_false_iff.mpr ha⟩

theorem parseInt64_of_intTok (t : Bytes) (hI : intTok (stripMinus t) = true) :
    parseInt64 t =
      if hasMinus t then (if decVal (stripMinus t) ≤ 2^63 then some (-(decVal (stripMinus t) : Int)) else none)
      else (if decVal (stripMinus t) < 2^63 then some (decVal (stripMinus t) : Int) else none) := by
  obtain ⟨hd, hall⟩ := intTok_digits _ hI
  obtain ⟨x, y, hx, hs, ⟨a, ha, rfl, hm⟩ | ⟨rfl, hm⟩⟩ := sign_split t hd
  · rw [hm, hs]; rw [hs] at hall
    simp only [parseInt64, ha, if_true, List.isEmpty_cons, hall, Bool.not_true, Bool.or_self, Bool.false_eq_true, if_false]
  · rw [hm, hs]; rw [hs] at hall
    simp only [parseInt64, digit_ne x hx cMinus (by decide), digit_ne x hx cPlus (by decide), List.isEmpty_cons, hall,
      Bool.not_true, Bool.or_self, Bool.false_eq_true, if_false]

theorem parseInt64_numTok (t : Bytes) (hI : intTok (stripMinus t) = true) (i : Int) (h : parseInt64 t = some i) :
    numTok (hasMinus t) (stripMinus t) = some (.int i) := by
  rw [parseInt64_of_intTok t hI] at h
  unfold numTok
  rw [if_pos hI]
  generalize decVal (stripMinus t) = m at h ⊢
  revert h
  cases hasMinus t with
  | false =>
    intro h
    rw [if_neg Bool.false_ne_true] at h
    obtain ⟨hm, h⟩ := ite_then_of_ne h nofun
    cases h
    rw [if_pos hm]; rfl
  | true =>
    intro h
    rw [if_pos rfl] at h
    obtain ⟨hm, h⟩ := ite_then_of_ne h nofun
    cases h
    by_cases hlt : m < 2^63
    · rw [if_pos hlt]; rfl
    · rw [if_neg hlt, (by omega : m = 2^63)]; rfl

theorem pointReal_realTok (u : Bytes) (h : pointReal u = true) : intTok u = false ∧ realTok u = true := by
  unfold pointReal at h
  simp only [Bool.and_eq_true, Bool.not_eq_true'] at h
  obtain ⟨hd, hrest⟩ := h
  cases ha : afterDigits u with
  | nil => rw [ha] at hrest; cases hrest
  | cons d r =>
    rw [ha] at hrest
    simp only [Bool.and_eq_true, Bool.not_eq_true', beq_iff_eq] at hrest
    constructor
    · unfold intTok
      rw [ha]; simp
    · unfold realTok
      rw [ha]
      simp only [hrest.1.1, beq_self_eq_true, if_true, hrest.1.2, Bool.not_false, Bool.true_and]
      exact hrest.2

theorem numTok_real (neg : Bool) (u : Bytes) (h : pointReal u = true) : numTok neg u = some (.real neg u) := by
  obtain ⟨hi, hr⟩ := pointReal_realTok u h
  unfold numTok; rw [hi, hr]; rfl

theorem utf8Len_le (b : Bytes) : utf8Len b ≤ b.length := by
  -- one goal per branch of `utf8Len`; the four that answer `k > 0` have matched `b` as `k` conses
  fun_cases utf8Len b
  case case2 | case3 | case6 | case9 => simp only [List.length_cons]; omega
  all_goals exact Nat.zero_le _

theorem utf8Len_append (b x : Bytes) (h : utf8Len b ≠ 0) : utf8Len (b ++ x) = utf8Len b := by
  revert h
  fun_cases utf8Len b <;> intro h
  -- the branches that answer `k > 0`: `b ++ x` starts with the same `k` conses, which pass the same
  -- tests (the hypotheses `fun_cases` leaves), so `utf8Len (b ++ x)` takes the same branch
  case case2 | case3 | case6 | case9 =>
    unfold utf8Len; simp +zetaDelta only [List.cons_append, *, if_true, if_false, Bool.false_eq_true]
  all_goals exact absurd rfl h

theorem hasByte_cons_false {n : Nat} {a : UInt8} {r : Bytes} :
    hasByte n (a :: r) = false ↔ (a.toNat == n) = false ∧ hasByte n r = false := by
  simp [hasByte]

theorem hasByte_drop (n k : Nat) (b : Bytes) (h : hasByte n b = false) : hasByte n (b.drop k) = false :=
  List.any_eq_false.mpr fun x hx => List.any_eq_false.mp h x (List.mem_of_mem_drop hx)

/-- `k` is the fuel of `validUTF8Aux`: validator and lexer walk `b` by the same `utf8Len` steps, so the induction is the
    validator's. Each rune goes to the accumulator; the quote behind `b` does not change the rune read (`utf8Len_append`). -/
theorem strBody_plain (q : UInt8) (hqq : (q.toNat == cQuote) = true) (rest : Bytes) (k : Nat) (b : Bytes) :
    ∀ (fuel : Nat) (acc : Bytes), validUTF8Aux k b = true → hasByte cQuote b = false → hasByte cBackslash b = false →
      b.length ≤ fuel → strBody (fuel + 1) (b ++ q :: rest) acc = some (acc.reverse ++ b, rest) := by
  have stop : ∀ fuel acc, strBody (fuel + 1) (q :: rest) acc = some (acc.reverse, rest) := by
    intro fuel acc; rw [strBody.eq_def]; exact if_pos hqq
  induction k, b using validUTF8Aux.induct with
  | case1 s =>
    intro fuel acc hv _ _ _
    rw [validUTF8Aux, List.isEmpty_iff] at hv
    rw [hv, List.append_nil]; exact stop fuel acc
  | case2 k => intro fuel acc _ _ _ _; rw [List.append_nil]; exact stop fuel acc
  | case3 k a r h0 => intro _ _ hv; rw [validUTF8Aux, h0] at hv; cases hv
  | case4 k a r j hj ih =>
    intro fuel acc hv hq hb hf
    rw [validUTF8Aux, hj] at hv
    obtain ⟨hqa, hqr⟩ := hasByte_cons_false.mp hq
    obtain ⟨hba, hbr⟩ := hasByte_cons_false.mp hb
    obtain ⟨fuel, rfl⟩ := Nat.exists_eq_add_one.mpr (Nat.lt_of_lt_of_le (Nat.succ_pos _) hf)
    have hle := utf8Len_le (a :: r)
    have happ := utf8Len_append (a :: r) (q :: rest) (by rw [hj]; exact Nat.succ_ne_zero j)
    rw [hj] at hle happ
    -- the rune at the head, `j + 1` bytes of `a :: r`, goes to the accumulator
    rw [List.cons_append, strBody.eq_def]
    dsimp only
    rw [if_neg (ne_true_of_eq_false hqa), if_neg (ne_true_of_eq_false hba), ← List.cons_append, happ]
    dsimp only
    rw [List.take_append_of_le_length hle, List.drop_append_of_le_length hle,
      ih fuel _ hv (hasByte_drop _ j r hqr) (hasByte_drop _ j r hbr)
        (Nat.le_trans (List.drop_sublist j r).length_le (Nat.le_of_succ_le_succ hf))]
    simp only [List.reverse_append, List.reverse_reverse, List.append_assoc, List.take_append_drop]

theorem litCore_cons (a : UInt8) (r : Bytes) (hT : asciiEqualFold (a :: r) wTrue = false) (hF : asciiEqualFold (a :: r) wFalse = false) :
    litCore (a :: r) =
        if a.toNat == cQuote then (strToks ((a :: r).length + 1) (a :: r) []).map LitVal.str
        else if a.toNat == cMinus then numTok true (trimLeft r)
        else numTok false (a :: r) := by
  unfold litCore
  rw [if_neg (ne_true_of_eq_false hT), if_neg (ne_true_of_eq_false hF)]

theorem litCore_num (t : Bytes) (hT : asciiEqualFold t wTrue = false) (hF : asciiEqualFold t wFalse = false)
    (hd : (digitsOf (stripMinus t)).isEmpty = false) : litCore t = numTok (hasMinus t) (stripMinus t) := by
  obtain ⟨x, y, hx, hs, ⟨a, ha, rfl, hm⟩ | ⟨rfl, hm⟩⟩ := sign_split t hd
  · have hq : (a.toNat == cQuote) = false := by rw [beq_iff_eq.mp ha]; rfl
    rw [litCore_cons _ _ hT hF, hq, if_neg (by decide), if_pos ha, hm, hs,
      trimLeft_of_spaceLen_zero _ (spaceLen_digit x y hx)]
  · rw [litCore_cons _ _ hT hF, digit_ne x hx cQuote (by decide), digit_ne x hx cMinus (by decide), if_neg (by decide),
      if_neg (by decide), hm, hs]

theorem numShortcut_litCore (ferr : Bytes → Bool) (s t : Bytes) (v : LitVal)
    (hT : asciiEqualFold t wTrue = false) (hF : asciiEqualFold t wFalse = false)
    (h : numShortcut ferr s t = some v) : litCore t = some v := by
  unfold numShortcut at h
  cases s with
  | nil => cases h
  | cons c s' =>
    dsimp only at h
    -- which first byte and which bytes of `s` select the branch does not matter: each branch checks `t` itself
    replace h := (ite_then_of_ne h nofun).2
    by_cases hdot : (!hasByte cDot (c :: s')) = true
    · rw [if_pos hdot] at h
      obtain ⟨hI, h⟩ := ite_then_of_ne h nofun
      obtain ⟨i, hp, rfl⟩ := Option.map_eq_some_iff.mp h
      rw [litCore_num t hT hF (intTok_digits _ hI).1]
      exact parseInt64_numTok t hI i hp
    · rw [if_neg hdot] at h
      obtain ⟨hR, h⟩ := ite_then_of_ne h nofun
      cases h
      have hR1 : pointReal (stripMinus t) = true := (Bool.and_eq_true_iff.mp hR).1
      rw [litCore_num t hT hF (pointReal_digits _ hR1)]
      exact numTok_real _ _ hR1

theorem isQuoted_shape (t : Bytes) (h : isQuoted t = true) :
    ∃ a z, t = a :: (unquote t ++ [z]) ∧ (a.toNat == cQuote) = true ∧ (z.toNat == cQuote) = true := by
  unfold isQuoted at h
  simp only [Bool.and_eq_true, decide_eq_true_eq] at h
  obtain ⟨⟨hlen, hhead⟩, hlast⟩ := h
  cases t with
  | nil => cases hlen
  | cons a r =>
    have hr : r ≠ [] := fun h0 => by simp [h0] at hlen
    rw [List.getLast?_eq_some_getLast (List.cons_ne_nil a r), List.getLast_cons hr] at hlast
    exact ⟨a, r.getLast hr, congrArg (a :: ·) (List.dropLast_concat_getLast hr).symm, hhead, hlast⟩

theorem strShortcut_litCore (t : Bytes) (v : LitVal)
    (hT : asciiEqualFold t wTrue = false) (hF : asciiEqualFold t wFalse = false)
    (h : strShortcut t = some v) : litCore t = some v := by
  unfold strShortcut at h
  obtain ⟨hc, h⟩ := ite_then_of_ne h nofun
  cases h
  simp only [Bool.and_eq_true, Bool.not_eq_true'] at hc
  obtain ⟨⟨⟨hq, hb⟩, hqq⟩, hv⟩ := hc
  obtain ⟨a, z, ht, ha, hz⟩ := isQuoted_shape t hq
  generalize unquote t = u at *
  subst ht
  -- one string token, `u` between the quotes `a` and `z`, and nothing behind it
  rw [litCore_cons _ _ hT hF, if_pos ha, strToks, if_pos ha,
    strBody_plain z hz [] u.length u _ [] hv hqq hb (by rw [List.length_append]; omega)]
  rfl

theorem tryLit_litCore (ferr : Bytes → Bool) (s : Bytes) (v : LitVal) (h : tryLit ferr s = some v) :
    litCore (trimSpace s) = some v := by
  unfold tryLit at h
  dsimp only at h
  by_cases hT : asciiEqualFold (trimSpace s) wTrue = true
  · rw [if_pos hT] at h; unfold litCore; rw [if_pos hT]; exact h
  · rw [if_neg hT] at h
    by_cases hF : asciiEqualFold (trimSpace s) wFalse = true
    · rw [if_pos hF] at h; unfold litCore; rw [if_neg hT, if_pos hF]; exact h
    · rw [if_neg hF] at h
      rw [Bool.not_eq_true] at hT hF
      cases hn : numShortcut ferr s (trimSpace s) with
      | some w => rw [hn] at h; cases h; exact numShortcut_litCore ferr s _ v hT hF hn
      | none => rw [hn] at h; exact strShortcut_litCore _ v hT hF h

/-- old-ClassAd quoting of a string body: a quote is written backslash-quote, every other byte as is.
    Written from the comment on `decodeOldClassAdString`, which names ast.AppendQuoteStringOld as what it
    inverts; the library's renderer is outside /repo and no test runs it against this definition. -/
def oldRender : Bytes → Bytes
  | [] => []
  | c :: rest => if c.toNat == cQuote then 92 :: 34 :: oldRender rest else c :: oldRender rest

theorem oldRender_head (x : Bytes) (b : UInt8) (rest : Bytes) (h : oldRender x = b :: rest) :
    (b.toNat == cQuote) = false := by
  cases x with
  | nil => cases h
  | cons c x' =>
    unfold oldRender at h
    by_cases hc : (c.toNat == cQuote) = true
    · rw [if_pos hc] at h; cases h; rfl
    · rw [if_neg hc] at h; cases h; exact Bool.eq_false_iff.mpr hc

theorem decodeOldAux_cons (a : UInt8) (s acc : Bytes) (ha : (a.toNat == cQuote) = false)
    (hs : ∀ b r, s = b :: r → (b.toNat == cQuote) = false) : decodeOldAux (a :: s) acc = decodeOldAux s (a :: acc) := by
  cases s with
  | nil => simp [decodeOldAux, ha]
  | cons b r =>
    rw [decodeOldAux, hs b r rfl, Bool.and_false, if_neg (by decide), if_neg (ne_true_of_eq_false ha)]

theorem decodeOldAux_render : ∀ (x acc : Bytes), decodeOldAux (oldRender x) acc = some (acc.reverse ++ x) := by
  intro x
  induction x with
  | nil => intro acc; simp [oldRender, decodeOldAux]
  | cons c x' ih =>
    intro acc
    unfold oldRender
    by_cases hc : (c.toNat == cQuote) = true
    · have : c = 34 := UInt8.toNat_inj.mp (beq_iff_eq.mp hc)
      rw [if_pos hc, decodeOldAux, if_pos (by decide), ih, this]
      simp
    · rw [if_neg hc, decodeOldAux_cons c _ acc (Bool.eq_false_iff.mpr hc) (oldRender_head x'), ih]
      simp

theorem oldRender_of_no_quote (x : Bytes) (h : hasByte cQuote (oldRender x) = false) : oldRender x = x := by
  induction x with
  | nil => rfl
  | cons c x' ih =>
    unfold oldRender at h ⊢
    by_cases hc : (c.toNat == cQuote) = true
    · rw [if_pos hc] at h
      simp [hasByte, cQuote] at h
    · rw [if_neg hc] at h ⊢
      rw [ih (hasByte_cons_false.mp h).2]

theorem decodeOld_render (x : Bytes) : decodeOld (oldRender x) = some x := by
  unfold decodeOld
  by_cases h : (!hasByte cBackslash (oldRender x) && !hasByte cQuote (oldRender x)) = true
  · rw [if_pos h]
    simp only [Bool.and_eq_true, Bool.not_eq_true'] at h
    rw [oldRender_of_no_quote x h.2]
  · rw [if_neg h, decodeOldAux_render]; rfl

/-- `res` is a variable so that one statement serves `.ok` and `.error` (the `match` reduces at either);
    it goes from the result to the facts only, and is silent on when the error occurs -/
theorem parseAndInsert_spec (ferr pok : Bytes → Bool) (e : Bytes) {res : Except Err (Bytes × Outcome)}
    (h : parseAndInsert ferr pok e = res) :
    match (generalizing := false) res with
    | .error x => x = .malformed
    | .ok (a, o) => ∃ l r, splitEq e = some (l, r) ∧ a = trimSpace l ∧ a ≠ [] ∧
      ((∃ x, o = .lit x ∧ tryLit ferr (trimSpace r) = some x) ∨
       (o = .full (trimSpace r) ∧ pok (trimSpace r) = true ∧ tryLit ferr (trimSpace r) = none) ∨
       (∃ x, o = .old x ∧ pok (trimSpace r) = false ∧ tryLit ferr (trimSpace r) = none ∧
          isQuoted (trimSpace (trimSpace r)) = true ∧ decodeOld (unquote (trimSpace (trimSpace r))) = some x)) := by
  subst h
  unfold parseAndInsert
  cases hs : splitEq e with
  | none => rfl
  | some p =>
    obtain ⟨l, r⟩ := p
    dsimp only
    -- the tests get names first: with `tryLit …`, `isQuoted …` in the goal every step below would evaluate
    -- them on the open term `trimSpace r` to find the branch of the statement's `match`
    generalize ht : tryLit ferr (trimSpace r) = t
    generalize hq : isQuoted (trimSpace (trimSpace r)) = q
    generalize hd : decodeOld (unquote (trimSpace (trimSpace r))) = d
    by_cases hemp : (trimSpace l).isEmpty = true
    · rw [if_pos hemp]
    · rw [if_neg hemp]
      have hne : trimSpace l ≠ [] := fun h0 => hemp (by rw [h0]; rfl)
      cases t with
      | some x => exact ⟨l, r, rfl, rfl, hne, .inl ⟨x, rfl, ht⟩⟩
      | none =>
        dsimp only
        by_cases hp : pok (trimSpace r) = true
        · rw [if_pos hp]; exact ⟨l, r, rfl, rfl, hne, .inr (.inl ⟨rfl, hp, ht⟩)⟩
        · rw [if_neg hp]
          cases q with
          | false => rfl
          | true =>
            cases d with
            | none => rfl
            | some x => exact ⟨l, r, rfl, rfl, hne, .inr (.inr ⟨x, rfl, Bool.eq_false_iff.mpr hp, ht, hq, hd⟩)⟩

theorem parseAndInsert_err (ferr pok : Bytes → Bool) (e : Bytes) (x : Err)
    (h : parseAndInsert ferr pok e = .error x) : x = .malformed :=
  parseAndInsert_spec ferr pok e h

theorem parseAndInsert_nil (ferr pok : Bytes → Bool) : parseAndInsert ferr pok [] = .error .malformed := rfl

end Cedar
