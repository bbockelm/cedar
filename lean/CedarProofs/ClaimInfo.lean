/-
  The session_info text of a claim id. `exportFields` / `render` write a policy as
  `[name=value;…]`, `importAttrs` / `policyOfAttrs` read it back. Clean fields are parsed back
  name by name, the values unquoted, newest binding first (`importAttrs_render`); a well-formed policy
  (`InfoWf`) is imported without error, and what was imported exports to the same text (`exportInfo_roundtrip`).
  `InfoWf` and (through `MintWf`) `VersionWf` occur in statements of C16: a change to them changes
  what those say.
-/
import CedarProofs.ClaimText

namespace Cedar.Claim
open Cedar

-- instance search for `LawfulBEq UInt8` ends at this instance, but only after every order class of `Std` has failed;
-- tried first, membership tests and `==` lemmas on bytes find it at once (the instance found is the same)
attribute [local instance 1100] instLawfulBEq

/-- Also how `evalStr` / `nonEmptyStr` are read after a `set`: unfold them to `lookup`, rewrite with this, and let
    `simp (config := { decide := true })` compare the names, as `wirePolicy_content` (ClaimId) does. -/
theorem lookup_set (p : Policy) (n k : Bytes) (v : Val) :
    (p.set n v).lookup k = if k = n then some v else p.lookup k := by
  simpa only [Policy.set, bne, ne_eq, decide_not, ← Bool.beq_eq_decide_eq] using lookup_insert p n k v

theorem evalStr_set (p : Policy) (n k : Bytes) (v : Val) (h : k ≠ n) :
    (p.set n v).evalStr k = p.evalStr k := by
  simp [Policy.evalStr, lookup_set, h]

theorem nonEmptyStr_ne {p : Policy} {n v : Bytes} (h : p.nonEmptyStr n = some v) : v ≠ [] := by
  unfold Policy.nonEmptyStr at h
  cases he : p.evalStr n with
  | none => simp [he] at h
  | some w =>
    obtain ⟨hw, e⟩ := ite_else_of_ne (he ▸ h :) nofun
    exact Option.some.inj e ▸ hw

theorem nonEmptyStr_of_lookup {q : Policy} {n : Bytes} {x : Option Bytes}
    (h : q.lookup n = x.map Val.s) (hne : ∀ v, x = some v → v ≠ []) : q.nonEmptyStr n = x := by
  unfold Policy.nonEmptyStr Policy.evalStr
  cases x with
  | none => simp [h]
  | some v => simp [h, hne v rfl]

/-- the value of `unquote`, which never fails (`unquote_ok`) -/
def unq (r : Bytes) : Bytes :=
  match unquote r with
  | .ok u => u
  | .error _ => []

theorem unquote_ok (r : Bytes) : unquote r = .ok (unq r) := by
  unfold unq unquote
  split
  · split <;> rfl
  · rfl

theorem getLast?_quote (v : Bytes) : (quote v).getLast? = some 34 := by
  unfold quote; rw [← List.cons_append, List.getLast?_concat]

theorem unq_quote (v : Bytes) : unq (quote v) = v := by
  unfold unq unquote
  simp only [getLast?_quote, and_true]
  cases v with
  | nil => simp [quote]
  | cons a t =>
    have : (a :: (t ++ [34])).dropLast = a :: t := by
      rw [← List.cons_append, List.dropLast_concat]
    simp [quote, this]

theorem unq_fmtInt (i : Int) : unq (fmtInt i) = fmtInt i := by
  have : (fmtInt i).head? ≠ some 34 := fun h =>
    absurd (fmtInt_bytes i 34 (List.mem_of_mem_head? (by simp [h]))) (by decide)
  simp [unq, unquote, this]

/-- text that `importItem` reads back as it stands -/
def Clean (s : Bytes) : Prop := 59 ∉ s ∧ Trimmed s

def CleanName (n : Bytes) : Prop := Clean n ∧ 61 ∉ n ∧ n ≠ []

instance (n : Bytes) : Decidable (CleanName n) := by unfold CleanName Clean; infer_instance

theorem clean_quote {v : Bytes} (h : 59 ∉ v) : Clean (quote v) := by
  refine ⟨?_, rfl, by rw [getLast?_quote]; rfl⟩
  simp only [quote, List.mem_cons, List.mem_append, List.mem_nil_iff, or_false, not_or]
  exact ⟨by decide, h, by decide⟩

theorem clean_fmtInt (i : Int) : Clean (fmtInt i) :=
  ⟨fun h => absurd (fmtInt_bytes i 59 h) (by decide), trimmed_fmtInt i⟩

theorem importItem_rendered {n r : Bytes} (acc : List (Bytes × Bytes)) (hn : CleanName n) (hr : Clean r) :
    importItem acc (n ++ 61 :: r) = .ok ((n, unq r) :: acc) := by
  obtain ⟨⟨_, hn1, hn2⟩, h61, hne⟩ := hn
  cases n with
  | nil => exact absurd rfl hne
  | cons a t =>
    have ht : Trimmed (a :: t ++ 61 :: r) := by
      refine ⟨hn1, ?_⟩
      rw [List.getLast?_append, List.getLast?_cons]
      cases hl : r.getLast? with
      | none => rfl
      | some b => simpa [hl] using hr.2.2
    have hne' : a :: t ++ 61 :: r ≠ [] := by simp
    unfold importItem
    simp only [trimSpace_id ht, if_neg hne', splitFirst_append r h61, trimSpace_id hr.2, trimSpace_id ⟨hn1, hn2⟩,
      unquote_ok]

def CleanFields (kvs : List (Bytes × Bytes)) : Prop := ∀ kv ∈ kvs, CleanName kv.1 ∧ Clean kv.2

/-- the attribute map `importAttrs` reads from rendered fields: values unquoted, newest binding first -/
def attrsOf (kvs : List (Bytes × Bytes)) : List (Bytes × Bytes) := (kvs.map (fun kv => (kv.1, unq kv.2))).reverse

theorem attrsOf_append (a b : List (Bytes × Bytes)) : attrsOf (a ++ b) = attrsOf b ++ attrsOf a := by
  simp [attrsOf]

theorem importItems_renderItems : ∀ (kvs acc : List (Bytes × Bytes)), CleanFields kvs →
    importItems acc (splitOn 59 (renderItems kvs)) = .ok (attrsOf kvs ++ acc)
  | [], acc, _ => rfl
  | kv :: rest, acc, h => by
    obtain ⟨hn, hv⟩ := h kv (by simp)
    have hns : (59 : UInt8) ∉ kv.1 ++ 61 :: kv.2 := by
      simp only [List.mem_append, List.mem_cons, not_or]
      exact ⟨hn.1.1, by decide, hv.1⟩
    have e : renderItems (kv :: rest) = (kv.1 ++ 61 :: kv.2) ++ 59 :: renderItems rest := by
      simp [renderItems, renderItem]
    simp only [e, splitOn_append _ hns, importItems, importItem_rendered acc hn hv,
      importItems_renderItems rest _ (fun x hx => h x (by simp [hx]))]
    simp [attrsOf]

theorem importAttrs_render (kvs : List (Bytes × Bytes)) (h : CleanFields kvs) :
    importAttrs (render kvs) = .ok (attrsOf kvs) := by
  have e : trimSuffix1 93 (trimPrefix1 91 (render kvs)) = renderItems kvs := by simp [render, trimPrefix1, trimSuffix1]
  unfold importAttrs
  rw [if_neg (by simp [render]), e, importItems_renderItems kvs [] h, List.append_nil]

theorem render_brackets (kvs : List (Bytes × Bytes)) :
    (render kvs).head? = some 91 ∧ (render kvs).getLast? = some 93 := by
  unfold render
  refine ⟨rfl, ?_⟩
  rw [← List.cons_append, List.getLast?_concat]

theorem forall_mem_optField {P : Bytes × Bytes → Prop} {n : Bytes} {x : Option Bytes} :
    (∀ kv ∈ optField n x, P kv) ↔ ∀ v, x = some v → P (n, v) := by
  cases x <;> simp [optField]

theorem lookup_optField (n k : Bytes) (x : Option Bytes) :
    (optField n x).lookup k = if k = n then x else none := by
  cases x with
  | none => simp [optField]
  | some v => exact lookup_insert [] n k v

theorem attrsOf_optField (n : Bytes) (x : Option Bytes) : attrsOf (optField n x) = optField n (x.map unq) := by
  cases x <;> rfl

theorem exportInfo_ok_iff {p : Policy} {t : Bytes} :
    exportInfo p = .ok t ↔ render (exportFields p) = t ∧ 35 ∉ t := by
  unfold exportInfo
  simp only [ite_error_eq_ok, Except.ok.injEq]
  constructor
  · rintro ⟨h, rfl⟩; exact ⟨rfl, h⟩
  · rintro ⟨rfl, h⟩; exact ⟨h, rfl⟩

/-- well-formedness of the values a policy exports: no ';' in any string value, no '.' in the
    cipher list, integer expiry within int64, and the version in a form `shortVersion` fixes -/
structure InfoWf (p : Policy) : Prop where
  enc : ∀ v, p.nonEmptyStr nEncryption = some v → 59 ∉ v
  int : ∀ v, p.nonEmptyStr nIntegrity = some v → 59 ∉ v
  vc : ∀ v, p.nonEmptyStr nValidCommands = some v → 59 ∉ v
  cm : ∀ v, p.nonEmptyStr nCryptoMethods = some v → 59 ∉ v ∧ 46 ∉ v
  rv : ∀ v, p.nonEmptyStr nRemoteVersion = some v →
        59 ∉ shortVersion v ∧ shortVersion v ≠ [] ∧ shortVersion (shortVersion v) = shortVersion v
  exp : ∀ v, p.lookup nSessionExpires = some (.i v) → Int64 v

theorem expiresField_of_some {p : Policy} (hw : ∀ v, p.lookup nSessionExpires = some (.i v) → Int64 v) {r : Bytes}
    (h : expiresField p = some r) : ∃ E, E ≠ 0 ∧ Int64 E ∧ r = fmtInt E := by
  unfold expiresField at h
  split at h
  · rename_i v hv
    obtain ⟨h0, e⟩ := ite_else_of_ne h nofun
    exact ⟨v, h0, hw v hv, (Option.some.inj e).symm⟩
  · rename_i s hs
    replace h := (ite_else_of_ne h nofun).2
    cases hp : parseInt64 (trimSpace s) with
    | none => simp [hp] at h
    | some n =>
      obtain ⟨h0, e⟩ := ite_else_of_ne (hp ▸ h :) nofun
      exact ⟨n, h0, parseInt64_range hp, (Option.some.inj e).symm⟩
  · cases h

theorem exportNames_clean : ∀ n ∈ [nCryptoMethods, nCryptoMethodsList, nEncryption, nIntegrity, nSessionExpires,
    nShortVersion, nValidCommands], CleanName n := by
  decide +kernel

theorem cleanFields_export {p : Policy} (w : InfoWf p) : CleanFields (exportFields p) := by
  unfold CleanFields
  have names := exportNames_clean
  simp only [List.forall_mem_cons] at names
  -- field by field in the order of `exportFields`; `names` settles the name of each and leaves the value
  simp only [exportFields, List.forall_mem_append, forall_mem_optField, Option.map_eq_some_iff, Option.bind_eq_some_iff,
    forall_exists_index, and_imp, forall_apply_eq_imp_iff₂, names, true_and]
  refine ⟨⟨⟨⟨⟨⟨?_, ?_⟩, ?_⟩, ?_⟩, ?_⟩, ?_⟩, ?_⟩
  · -- CryptoMethods
    intro v hv
    split
    · exact clean_quote fun h => (w.cm v hv).1 (mem_firstOf (mem_trimSpace h))
    · exact clean_quote (w.cm v hv).1
  · -- CryptoMethodsList
    intro r v hv
    split
    · rintro ⟨rfl⟩
      exact clean_quote fun h => (w.cm v hv).1 (mem_replace h (by decide))
    · intro h; cases h
  · -- Encryption
    exact fun v hv => clean_quote (w.enc v hv)
  · -- Integrity
    exact fun v hv => clean_quote (w.int v hv)
  · -- SessionExpires
    intro r hr
    obtain ⟨E, _, _, rfl⟩ := expiresField_of_some w.exp hr
    exact clean_fmtInt E
  · -- ShortVersion
    exact fun v hv => clean_quote (w.rv v hv).1
  · -- ValidCommands
    exact fun v hv => clean_quote (w.vc v hv)

theorem attrs_export (p : Policy) :
    (attrsOf (exportFields p)).lookup nEncryption = p.nonEmptyStr nEncryption ∧
    (attrsOf (exportFields p)).lookup nIntegrity = p.nonEmptyStr nIntegrity ∧
    (attrsOf (exportFields p)).lookup nValidCommands = p.nonEmptyStr nValidCommands ∧
    (attrsOf (exportFields p)).lookup nCryptoMethods =
      (p.nonEmptyStr nCryptoMethods).map (fun v => if 44 ∈ v then trimSpace (firstOf 44 v) else v) ∧
    (attrsOf (exportFields p)).lookup nCryptoMethodsList =
      (p.nonEmptyStr nCryptoMethods).bind (fun v => if 44 ∈ v then some (replace 44 46 v) else none) ∧
    (attrsOf (exportFields p)).lookup nShortVersion = (p.nonEmptyStr nRemoteVersion).map shortVersion ∧
    (attrsOf (exportFields p)).lookup nSessionExpires = (expiresField p).map unq := by
  -- the seven names are distinct (`decide`), so each lookup finds its own field and no other
  simp (config := { decide := true }) only [exportFields, attrsOf_append, attrsOf_optField, List.lookup_append,
    lookup_optField, if_true, if_false, Option.or_none, Option.none_or]
  -- whose value is `unq` of a quoted string
  simp only [Option.map_map, Option.map_bind, Function.comp_def, apply_ite unq, apply_ite (Option.map unq), Option.map_some,
    Option.map_none, unq_quote, Option.map_id', and_self]

theorem shortVersion_short {v : Bytes} (h1 : 32 ∉ v) (h2 : 36 ∉ v) : shortVersion v = v := by
  unfold shortVersion
  simp [h1, h2]

/-- a version string in compact form ("25.4.0") or in the long form
    "<token> <compact version> <anything>" (e.g. "$CondorVersion: 25.4.0 2025-10-31 ... $") -/
inductive VersionWf : Bytes → Prop
  | short (v : Bytes) : 32 ∉ v → 36 ∉ v → 59 ∉ v → v ≠ [] → VersionWf v
  | long (tok ver rest : Bytes) (d : UInt8) (t : Bytes) :
      tok ≠ [] → (∀ b ∈ tok, isSpace b = false) → 46 ∉ tok →
      ver = d :: t → isDigit d = true → (∀ b ∈ ver, isSpace b = false) → 36 ∉ ver → 59 ∉ ver → 46 ∈ ver →
      (∀ b, ver.getLast? = some b → b ≠ 59 ∧ b ≠ 44) →
      VersionWf (tok ++ 32 :: (ver ++ 32 :: rest))

theorem shortVersion_wf {v : Bytes} (h : VersionWf v) :
    59 ∉ shortVersion v ∧ shortVersion v ≠ [] ∧ shortVersion (shortVersion v) = shortVersion v := by
  cases h with
  | short _ h1 h2 h3 h4 =>
    rw [shortVersion_short h1 h2]
    exact ⟨h3, h4, shortVersion_short h1 h2⟩
  | long tok ver rest d t htok hts htd hver hd hvs hv36 hv59 hv46 hlast =>
    have h32 : (32 : UInt8) ∉ ver := fun hm => absurd (hvs 32 hm) (by decide)
    -- `fields` yields `tok`, then `ver`; `versionTok` refuses `tok` (no '.') and takes `ver`, which the right trim leaves alone (`hlast`)
    have key : shortVersion (tok ++ 32 :: (ver ++ 32 :: rest)) = ver := by
      unfold shortVersion
      have hin : (32 : UInt8) ∈ tok ++ 32 :: (ver ++ 32 :: rest) ∨ (36 : UInt8) ∈ tok ++ 32 :: (ver ++ 32 :: rest) :=
        Or.inl (by simp)
      simp only [hin, not_true_eq_false, if_false]
      unfold fields
      rw [fieldsAux_word (by decide) tok [] _ hts (Or.inr htok),
        fieldsAux_word (by decide) ver [] _ hvs (Or.inr (by rw [hver]; simp))]
      have p1 : versionTok tok = false := by simp [versionTok, htd]
      have p2 : versionTok ver = true := by
        subst hver
        simp [versionTok, startsDigit, hv46, hd]
      simp only [List.reverse_nil, List.nil_append, List.find?, p1, p2]
      exact trimRightBy_id ((Option.any_eq_false ..).mpr fun b hl => by simp [(hlast b hl).1, (hlast b hl).2])
    rw [key]
    exact ⟨hv59, by rw [hver]; simp, shortVersion_short h32 hv36⟩

/-- the step `policyOfAttrs` repeats -/
def setIf (p : Policy) (n : Bytes) : Option Bytes → Policy
  | some v => p.set n (.s v)
  | none => p

theorem lookup_setIf (x : Option Bytes) (p : Policy) (n k : Bytes) :
    (setIf p n x).lookup k = if k = n then (x.map Val.s).or (p.lookup k) else p.lookup k := by
  cases x with
  | none => simp [setIf]
  | some v => simp [setIf, lookup_set]

theorem lookup_copyIf (attrs : List (Bytes × Bytes)) (p : Policy) (n k : Bytes) :
    (copyIf attrs p n).lookup k =
      if k = n then ((attrs.lookup n).map Val.s).or (p.lookup k) else p.lookup k :=
  lookup_setIf (attrs.lookup n) p n k

theorem policyOfAttrs_eq (a : List (Bytes × Bytes)) : policyOfAttrs a =
    setIf (setIf (setIf (setIf (setIf (setIf (setIf [] nIntegrity (a.lookup nIntegrity)) nEncryption (a.lookup nEncryption))
      nCryptoMethods (a.lookup nCryptoMethods)) nSessionExpires (a.lookup nSessionExpires)) nValidCommands (a.lookup nValidCommands))
      nCryptoMethods (cmOfAttrs a)) nRemoteVersion (a.lookup nShortVersion) := rfl

theorem cmOfAttrs_none {a : List (Bytes × Bytes)} (h : cmOfAttrs a = none) : a.lookup nCryptoMethods = none := by
  unfold cmOfAttrs at h
  split at h
  · split at h
    · exact Option.map_eq_none_iff.mp h
    · cases h
  · exact Option.map_eq_none_iff.mp h

/-- what `ImportSecSessionInfo` puts into the policy -/
theorem policyOfAttrs_lookup (a : List (Bytes × Bytes)) :
    (policyOfAttrs a).lookup nEncryption = (a.lookup nEncryption).map Val.s ∧
    (policyOfAttrs a).lookup nIntegrity = (a.lookup nIntegrity).map Val.s ∧
    (policyOfAttrs a).lookup nValidCommands = (a.lookup nValidCommands).map Val.s ∧
    (policyOfAttrs a).lookup nCryptoMethods = (cmOfAttrs a).map Val.s ∧
    (policyOfAttrs a).lookup nRemoteVersion = (a.lookup nShortVersion).map Val.s ∧
    (policyOfAttrs a).lookup nSessionExpires = (a.lookup nSessionExpires).map Val.s := by
  -- all but `CryptoMethods` are set once; that one is set twice, the second value winning when there is one
  simp (config := { decide := true }) only [policyOfAttrs_eq, lookup_setIf, List.lookup_nil, Option.or_none,
    if_true, if_false, true_and, and_true]
  cases hc : cmOfAttrs a with
  | none => simp [cmOfAttrs_none hc]
  | some c => rfl

theorem cmOfAttrs_export {p : Policy} (h : ∀ v, p.nonEmptyStr nCryptoMethods = some v → 46 ∉ v) :
    cmOfAttrs (attrsOf (exportFields p)) = p.nonEmptyStr nCryptoMethods := by
  obtain ⟨-, -, -, cm, cml, -, -⟩ := attrs_export p
  unfold cmOfAttrs
  rw [cm, cml]
  cases hc : p.nonEmptyStr nCryptoMethods with
  | none => rfl
  | some cm =>
    by_cases h44 : (44 : UInt8) ∈ cm
    · simp [h44, replace_ne_nil (nonEmptyStr_ne hc), replace_replace (h cm hc)]
    · simp [h44, replace_id (h cm hc)]

/-- what `importInfo` makes of the exported text of `p` (`importInfo_render`) -/
def reimported (p : Policy) : Policy := policyOfAttrs (attrsOf (exportFields p))

theorem importInfo_render {p : Policy} (w : InfoWf p) :
    importInfo (render (exportFields p)) = .ok (reimported p) := by
  unfold importInfo
  rw [if_neg (by simp [render]), if_neg (fun h => h (render_brackets _)),
    importAttrs_render _ (cleanFields_export w)]
  rfl

theorem reimported_carries {p : Policy} (w : InfoWf p) :
    (reimported p).nonEmptyStr nEncryption = p.nonEmptyStr nEncryption ∧
    (reimported p).nonEmptyStr nIntegrity = p.nonEmptyStr nIntegrity ∧
    (reimported p).nonEmptyStr nValidCommands = p.nonEmptyStr nValidCommands ∧
    (reimported p).nonEmptyStr nCryptoMethods = p.nonEmptyStr nCryptoMethods ∧
    (reimported p).nonEmptyStr nRemoteVersion = (p.nonEmptyStr nRemoteVersion).map shortVersion ∧
    (reimported p).lookup nSessionExpires = (expiresField p).map Val.s := by
  have L := policyOfAttrs_lookup (attrsOf (exportFields p))
  obtain ⟨enc, int, vc, -, -, sv, exp⟩ := attrs_export p
  rw [enc, int, vc, sv, exp, cmOfAttrs_export fun v hv => (w.cm v hv).2] at L
  obtain ⟨enc, int, vc, cm, rv, exp⟩ := L
  have ne : ∀ {n v}, p.nonEmptyStr n = some v → v ≠ [] := nonEmptyStr_ne
  refine ⟨nonEmptyStr_of_lookup enc fun _ => ne, nonEmptyStr_of_lookup int fun _ => ne, nonEmptyStr_of_lookup vc fun _ => ne,
    nonEmptyStr_of_lookup cm fun _ => ne, nonEmptyStr_of_lookup rv ?_, ?_⟩
  · intro v hv
    obtain ⟨rv, hc, rfl⟩ := Option.map_eq_some_iff.mp hv
    exact (w.rv rv hc).2.1
  · refine exp.trans ((Option.map_map ..).trans (Option.map_congr fun r he => ?_))
    obtain ⟨E, _, _, rfl⟩ := expiresField_of_some w.exp he
    exact congrArg Val.s (unq_fmtInt E)

theorem exportFields_reimported {p : Policy} (w : InfoWf p) : exportFields (reimported p) = exportFields p := by
  obtain ⟨enc, int, vc, cm, rv, exp⟩ := reimported_carries w
  have hexp : expiresField (reimported p) = expiresField p := by
    rw [expiresField, exp]
    cases he : expiresField p with
    | none => rfl
    | some r =>
      obtain ⟨E, h0, hr, rfl⟩ := expiresField_of_some w.exp he
      simp only [Option.map_some, fmtInt_ne_nil, if_false, trimSpace_fmtInt, parseInt64_fmtInt hr, h0]
  have hsv : ((reimported p).nonEmptyStr nRemoteVersion).map (fun v => quote (shortVersion v)) =
      (p.nonEmptyStr nRemoteVersion).map (fun v => quote (shortVersion v)) := by
    rw [rv, Option.map_map]
    exact Option.map_congr fun v hc => congrArg quote (w.rv v hc).2.2
  unfold exportFields
  rw [enc, int, vc, cm, hexp, hsv]

theorem exportInfo_roundtrip {p : Policy} (w : InfoWf p) {t : Bytes} (h : exportInfo p = .ok t) :
    importInfo t = .ok (reimported p) ∧ exportInfo (reimported p) = .ok t := by
  obtain ⟨rfl, h35⟩ := exportInfo_ok_iff.mp h
  exact ⟨importInfo_render w, exportInfo_ok_iff.mpr ⟨by rw [exportFields_reimported w], h35⟩⟩

end Cedar.Claim
