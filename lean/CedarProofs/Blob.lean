/-
  The crypto-state blob (C15): what `ExportCryptoState` writes and what importing it rebuilds, as
  records; and its byte layout: the whole parses back, every strict prefix is rejected.
-/
import CedarModel.Export
import CedarProofs.BasicLemmas
import CedarProofs.Util

namespace Cedar
open CedarGen

/-- the record `ExportCryptoState` writes for a stream holding key `k` (the record literal of
    `Stream.exportFields`, under a name) -/
def exported (sha : Bytes → Bytes) (s : Stream) (k : Nat) : BlobFields where
  flags := bit s.encrypted stream.csFlagEncrypted + bit s.authenticated stream.csFlagAuthenticated
         + bit s.finSendAAD stream.csFlagFinishedSendAAD + bit s.finRecvAAD stream.csFlagFinishedRecvAAD
         + bit s.dig.sendWritten stream.csFlagSendDigestWritten + bit s.dig.recvWritten stream.csFlagRecvDigestWritten
  key := k
  encIV := s.encIV
  decIV := s.decIV
  encCtr := s.encCtr
  decCtr := s.decCtr
  fs := optDigestBytes sha s.dig.finalSend
  fr := optDigestBytes sha s.dig.finalRecv
  peer := s.peerAddr

/-- the clean-boundary predicate of the property statement -/
def C15.Clean (s : Stream) : Prop :=
  s.encrypted = true ∧ s.key.isSome = true ∧ s.finSendAAD = true ∧ s.finRecvAAD = true ∧
  s.inMessage = false ∧ s.bytesRead = 0 ∧ s.recvBuf = [] ∧ s.sendBuf = [] ∧ s.sendEOM = false

/-- the conjuncts of `Clean` are the refusal guards of `ExportCryptoState`, in order -/
theorem exportFields_ok {sha : Bytes → Bytes} {s : Stream} {f : BlobFields} :
    s.exportFields sha = .ok f ↔ C15.Clean s ∧ ∃ k, s.key = some k ∧ f = exported sha s k := by
  unfold Stream.exportFields C15.Clean
  rw [ite_error_eq_ok]
  cases s.key with
  | none => exact ⟨fun h => (nomatch h.2), fun h => nomatch h.1.2.1⟩
  | some k =>
    -- the remaining guards peeled one by one (`ite_error_eq_ok`); the other lemmas put each negated
    -- guard in `Clean`'s form: `¬ (!b) = true` as `b = true`, `¬ n ≠ 0` as `n = 0`, `l.length = 0` as `l = []`
    simp only [ite_error_eq_ok, Except.ok.injEq, Option.some.injEq, exists_eq_left', Bool.not_eq_true,
      Bool.not_eq_eq_eq_not, Bool.not_true, Bool.or_eq_false_iff, Bool.not_eq_false, Decidable.not_not,
      List.length_eq_zero_iff, Bool.not_false, and_assoc, exported, eq_comm (a := f), Option.isSome_some,
      true_and]

/-- the regenerated `csFlag…` values are distinct powers of two: a finite check over the 64
    combinations -/
theorem flagSet_flags : ∀ (e a fs fr sw rw : Bool),
    let x := bit e stream.csFlagEncrypted + bit a stream.csFlagAuthenticated + bit fs stream.csFlagFinishedSendAAD +
      bit fr stream.csFlagFinishedRecvAAD + bit sw stream.csFlagSendDigestWritten + bit rw stream.csFlagRecvDigestWritten
    flagSet x stream.csFlagEncrypted = e ∧ flagSet x stream.csFlagAuthenticated = a ∧
    flagSet x stream.csFlagFinishedSendAAD = fs ∧ flagSet x stream.csFlagFinishedRecvAAD = fr ∧
    flagSet x stream.csFlagSendDigestWritten = sw ∧ flagSet x stream.csFlagRecvDigestWritten = rw := by
  decide +kernel

theorem importFields_exported {sha : Bytes → Bytes} {s : Stream} {f : BlobFields}
    (h : s.exportFields sha = .ok f) :
    importFields f = { s with dig := (importFields f).dig, beforeSecret := false, totalMsg := 0 } := by
  obtain ⟨⟨_, _, _, _, h4, h5, h6, h7, h8⟩, k, hk, rfl⟩ := exportFields_ok.mp h
  obtain ⟨f1, f2, f3, f4, _, _⟩ := flagSet_flags s.encrypted s.authenticated s.finSendAAD s.finRecvAAD
    s.dig.sendWritten s.dig.recvWritten
  unfold importFields
  simp only [exported, f1, f2, f3, f4, hk, h4, h5, h6, h7, h8]

theorem importFieldsAround_eq (connAddr : Bytes) (f : BlobFields) :
    importFieldsAround connAddr f =
      { importFields f with peerAddr := if f.peer = [] then connAddr else f.peer } := by
  unfold importFieldsAround
  cases f.peer <;> rfl

/-- the ranges `ExportCryptoState` can write: one flag byte, a 32-byte key, 16-byte IVs, 32-bit
    counters, 16-bit length prefixes -/
structure C15.WfBlob (f : BlobFields) : Prop where
  flags : f.flags < 256
  key : f.key < 256 ^ 32
  e0 : f.encIV.w0 < 2 ^ 32
  et : f.encIV.tail.length = 12
  d0 : f.decIV.w0 < 2 ^ 32
  dt : f.decIV.tail.length = 12
  ec : f.encCtr < 2 ^ 32
  dc : f.decCtr < 2 ^ 32
  fs : f.fs.length < 65536
  fr : f.fr.length < 65536
  peer : f.peer.length < 65536

theorem csMagic_len : csMagic.length = 4 := by decide +kernel

theorem ivBytes_len (iv : IV) (h : iv.tail.length = 12) : (ivBytes iv).length = 16 := by
  rw [ivBytes, List.length_append, h, be32, length_beN]

theorem ivOfBytes_ivBytes (iv : IV) (h0 : iv.w0 < 2 ^ 32) : ivOfBytes (ivBytes iv) = iv := by
  unfold ivOfBytes ivBytes
  have h4 : (be32 iv.w0).length = 4 := length_beN 4 _
  rw [List.take_left' h4, List.drop_left' h4, beVal_be32' _ h0]

theorem varField_len (a : Bytes) : (varField a).length = 2 + a.length := by
  rw [varField, List.length_append, be16, length_beN]

theorem readVar_take (a r : Bytes) (ha : a.length < 65536) (m : Nat) :
    readVar ((varField a ++ r).take m) =
      if m < 2 + a.length then .error .malformed else .ok (a, r.take (m - (2 + a.length))) := by
  have h2 : (be16 a.length).length = 2 := length_beN 2 _
  unfold readVar
  rcases Nat.lt_or_ge m 2 with hm | hm
  · rw [if_pos (Nat.lt_of_le_of_lt (List.length_take_le ..) hm), if_pos (Nat.lt_of_lt_of_le hm (Nat.le_add_right ..))]
  · obtain ⟨j, rfl⟩ := Nat.exists_eq_add_of_le hm
    rw [varField, List.append_assoc, ← h2, List.take_length_add_append,
      if_neg (Nat.not_lt.mpr (List.length_append ▸ Nat.le_add_right ..)), List.take_left' rfl, List.drop_left' rfl,
      beVal_be16 _ ha, h2]
    rcases Nat.lt_or_ge j a.length with hj | hj
    · rw [if_pos (Nat.lt_of_le_of_lt (List.length_take_le ..) hj), if_pos (Nat.add_lt_add_left hj 2)]
    · obtain ⟨i, rfl⟩ := Nat.exists_eq_add_of_le hj
      rw [List.take_length_add_append, if_neg (Nat.not_lt.mpr (List.length_append ▸ Nat.le_add_right ..)),
        if_neg (Nat.not_lt.mpr (Nat.add_le_add_left (Nat.le_add_right ..) 2)),
        List.take_left' rfl, List.drop_left' rfl, ← Nat.add_assoc, Nat.add_sub_cancel_left]

theorem C15.readVar_truncated (a : Bytes) (m : Nat) (ha : a.length < 65536) (hm : m < 2 + a.length) :
    ∃ e, readVar ((varField a).take m) = .error e := by
  have := readVar_take a [] ha m
  rw [List.append_nil, if_pos hm] at this
  exact ⟨_, this⟩

/-- the three `readVar` calls `decodeBlob` ends in (the two digests, the peer address), under a name -/
def decodeTrailer (t : Bytes) : Except Err (Bytes × Bytes × Bytes) :=
  match readVar t with
  | .error e => .error e
  | .ok (a, r1) =>
    match readVar r1 with
    | .error e => .error e
    | .ok (b, r2) =>
      match readVar r2 with
      | .error e => .error e
      | .ok (c, _) => .ok (a, b, c)

theorem decodeTrailer_take (a b c : Bytes) (ha : a.length < 65536) (hb : b.length < 65536) (hc : c.length < 65536)
    (m : Nat) :
    decodeTrailer ((varField a ++ (varField b ++ varField c)).take m) =
      if m < (varField a ++ (varField b ++ varField c)).length then .error .malformed else .ok (a, b, c) := by
  have hlen : (varField a ++ (varField b ++ varField c)).length = 2 + a.length + (2 + b.length + (2 + c.length)) := by
    simp only [List.length_append, varField_len]
  unfold decodeTrailer
  rw [readVar_take a _ ha, hlen]
  rcases Nat.lt_or_ge m (2 + a.length) with h1 | h1
  · rw [if_pos h1, if_pos (Nat.lt_of_lt_of_le h1 (Nat.le_add_right ..))]
  · obtain ⟨m1, rfl⟩ := Nat.exists_eq_add_of_le h1
    rw [if_neg (Nat.not_lt.mpr h1), Nat.add_sub_cancel_left]
    dsimp only
    rw [readVar_take b _ hb]
    rcases Nat.lt_or_ge m1 (2 + b.length) with h2 | h2
    · rw [if_pos h2, if_pos (Nat.add_lt_add_left (Nat.lt_of_lt_of_le h2 (Nat.le_add_right ..)) _)]
    · obtain ⟨m2, rfl⟩ := Nat.exists_eq_add_of_le h2
      rw [if_neg (Nat.not_lt.mpr h2), Nat.add_sub_cancel_left]
      dsimp only
      rw [← List.append_nil (varField c), readVar_take c _ hc]
      rcases Nat.lt_or_ge m2 (2 + c.length) with h3 | h3
      · rw [if_pos h3, if_pos (Nat.add_lt_add_left (Nat.add_lt_add_left h3 _) _)]
      · rw [if_neg (Nat.not_lt.mpr h3),
          if_neg (Nat.not_lt.mpr (Nat.add_le_add_left (Nat.add_le_add_left h3 _) _))]

theorem decodeBlob_header {b : Bytes} {f : BlobFields} (h : decodeBlob b = .ok f) :
    ¬ b.length < csFixedLen ∧ b.take 4 = csMagic ∧ beVal ((b.drop 4).take 2) = csVersion := by
  unfold decodeBlob at h
  rw [ite_error_eq_ok, ite_error_eq_ok, ite_error_eq_ok] at h
  exact ⟨h.1, Decidable.not_not.mp h.2.1, Decidable.not_not.mp h.2.2.1⟩

theorem drop_read {b x r : Bytes} {off n off' : Nat} (h : b.drop off = x ++ r) (hx : x.length = n)
    (ho : off + n = off') : (b.drop off).take n = x ∧ b.drop off' = r := by
  subst ho hx
  rw [← List.drop_drop, h]
  exact ⟨List.take_left' rfl, List.drop_left' rfl⟩

/-- where `decodeBlob` looks: the layout of the fixed part, over any eight chunks of the right sizes -/
theorem decodeBlob_layout {v fl k e d ec dc t : Bytes} (hv : v.length = 2) (hver : beVal v = csVersion)
    (hfl : fl.length = 1) (hk : k.length = 32) (he : e.length = 16) (hd : d.length = 16)
    (hec : ec.length = 4) (hdc : dc.length = 4) :
    decodeBlob (csMagic ++ (v ++ (fl ++ (k ++ (e ++ (d ++ (ec ++ (dc ++ t)))))))) =
      match decodeTrailer t with
      | .error e => .error e
      | .ok (a, b, c) => .ok ⟨(fl.headD 0).toNat, beVal k, ivOfBytes e, ivOfBytes d, beVal ec, beVal dc, a, b, c⟩ := by
  have hm := csMagic_len
  have hlen : ¬ (csMagic ++ (v ++ (fl ++ (k ++ (e ++ (d ++ (ec ++ (dc ++ t)))))))).length < csFixedLen := by
    simp only [List.length_append, hm, hv, hfl, hk, he, hd, hec, hdc]
    unfold csFixedLen stream.cryptoStateFixedLen; omega
  -- the offsets are the running sums of the chunk sizes 4 2 1 32 16 16 4 4
  obtain ⟨t4, a6⟩ := drop_read (List.drop_left' hm) hv (off' := 6) rfl
  obtain ⟨t6, a7⟩ := drop_read a6 hfl (off' := 7) rfl
  obtain ⟨t7, a39⟩ := drop_read a7 hk (off' := 39) rfl
  obtain ⟨t39, a55⟩ := drop_read a39 he (off' := 55) rfl
  obtain ⟨t55, a71⟩ := drop_read a55 hd (off' := 71) rfl
  obtain ⟨t71, a75⟩ := drop_read a71 hec (off' := 75) rfl
  obtain ⟨t75, a79⟩ := drop_read a75 hdc (off' := 79) rfl
  unfold decodeBlob
  rw [if_neg hlen]
  rw [List.take_left' hm, if_neg (fun h => h rfl), t4, if_neg (fun h => h hver), t6, t7, t39, t55, t71, t75, a79]
  unfold decodeTrailer
  cases readVar t with
  | error e => rfl
  | ok r =>
    obtain ⟨a, r1⟩ := r
    dsimp only
    cases readVar r1 with
    | error e => rfl
    | ok r =>
      obtain ⟨b, r2⟩ := r
      dsimp only
      cases readVar r2 <;> rfl

/-- the fixed part of the blob: magic 4, version 2, flags 1, key 32, IVs 16 + 16, counters 4 + 4 bytes
    (stream.go `cryptoStateFixedLen`) -/
def fixedPart (f : BlobFields) : Bytes :=
  csMagic ++ (be16 csVersion ++ ([UInt8.ofNat f.flags] ++ (beN 32 f.key ++ (ivBytes f.encIV ++
    (ivBytes f.decIV ++ (be32 f.encCtr ++ be32 f.decCtr))))))

theorem encodeBlob_split (f : BlobFields) :
    encodeBlob f = fixedPart f ++ (varField f.fs ++ (varField f.fr ++ varField f.peer)) := by
  simp only [encodeBlob, fixedPart, List.append_assoc]

theorem fixedPart_len (f : BlobFields) (wf : C15.WfBlob f) : (fixedPart f).length = csFixedLen := by
  simp only [fixedPart, List.length_append, csMagic_len, ivBytes_len _ wf.et, ivBytes_len _ wf.dt, be16, be32,
    length_beN, List.length_cons, List.length_nil]
  rfl

theorem decode_fixed (f : BlobFields) (wf : C15.WfBlob f) (t : Bytes) :
    decodeBlob (fixedPart f ++ t) =
      match decodeTrailer t with
      | .error e => .error e
      | .ok (a, b, c) => .ok ⟨f.flags, f.key, f.encIV, f.decIV, f.encCtr, f.decCtr, a, b, c⟩ := by
  have hfl : (([UInt8.ofNat f.flags] : Bytes).headD 0).toNat = f.flags :=
    (UInt8.toNat_ofNat' ..).trans (Nat.mod_eq_of_lt wf.flags)
  simp only [fixedPart, List.append_assoc]
  rw [decodeBlob_layout (v := be16 csVersion) (ec := be32 f.encCtr) (dc := be32 f.decCtr)
      (length_beN 2 _) (beVal_be16 _ (by decide)) rfl (length_beN 32 _)
      (ivBytes_len _ wf.et) (ivBytes_len _ wf.dt) (length_beN 4 _) (length_beN 4 _),
    hfl, beVal_beN 32 _ wf.key, ivOfBytes_ivBytes _ wf.e0, ivOfBytes_ivBytes _ wf.d0,
    beVal_be32' _ wf.ec, beVal_be32' _ wf.dc]

theorem decodeBlob_take (f : BlobFields) (wf : C15.WfBlob f) (m : Nat) :
    decodeBlob ((encodeBlob f).take m) = if m < (encodeBlob f).length then .error .malformed else .ok f := by
  have hfix := fixedPart_len f wf
  rw [encodeBlob_split]
  rcases Nat.lt_or_ge m (fixedPart f).length with hm | hm
  · rw [if_pos (Nat.lt_of_lt_of_le hm (by rw [List.length_append]; exact Nat.le_add_right ..))]
    unfold decodeBlob
    rw [hfix] at hm
    rw [if_pos (Nat.lt_of_le_of_lt (List.length_take_le ..) hm)]
  · obtain ⟨j, rfl⟩ := Nat.exists_eq_add_of_le hm
    rw [List.take_length_add_append, decode_fixed f wf, decodeTrailer_take _ _ _ wf.fs wf.fr wf.peer,
      List.length_append (as := fixedPart f)]
    rcases Nat.lt_or_ge j (varField f.fs ++ (varField f.fr ++ varField f.peer)).length with hj | hj
    · rw [if_pos hj, if_pos (Nat.add_lt_add_left hj _)]
    · rw [if_neg (Nat.not_lt.mpr hj), if_neg (Nat.not_lt.mpr (Nat.add_le_add_left hj _))]

end Cedar
