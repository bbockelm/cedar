/-
  Claim ids `<sid>#[info]<secret>`. The main statement is `import_of_mint`: what a successful `mint`
  produced parses into exactly its three parts, and every holder imports the same sessions from it.
  For well-formed options (`MintWf`) the embedded policy carries the minted settings. `MintWf` and
  `finishNames` occur in statements of C16: a change to them changes what those say.
-/
import CedarProofs.ClaimInfo

namespace Cedar.Claim
open Cedar

-- instance search for `LawfulBEq UInt8` / `ReflBEq UInt8` ends at these two, but only after every order class of
-- `Std` has failed; tried first, membership tests and `==` lemmas on bytes find their instance at once
attribute [local instance 1100] instLawfulBEq LawfulBEq.toReflBEq

/-- the session id is unconstrained: it may contain '#', '[' and ']' -/
theorem parseStrict_assembled (sid body secret : Bytes)
    (hb : 35 ∉ body) (hs : 35 ∉ secret) (hr : 93 ∉ secret) :
    parseStrict (sid ++ 35 :: ((91 :: (body ++ [93])) ++ secret)) =
      { sid := sid, info := 91 :: (body ++ [93]), key := secret } := by
  have h35 : (35 : UInt8) ∉ (91 :: (body ++ [93])) ++ secret := by
    simp only [List.cons_append, List.mem_cons, List.mem_append, List.mem_nil_iff, or_false, not_or]
    exact ⟨by decide, ⟨hb, by decide⟩, hs⟩
  have e : (91 : UInt8) :: (body ++ [93] ++ secret) = (91 :: body) ++ 93 :: secret := by simp
  unfold parseStrict
  rw [splitLast_append sid h35]
  simp only [List.cons_append]
  rw [e, splitLast_append (91 :: body) hr]
  simp

theorem parseStrict_key_suffix (c : Bytes) : (parseStrict c).key <:+ c := by
  unfold parseStrict
  split
  · exact List.nil_suffix
  · rename_i h
    split
    · split
      · rename_i h2
        exact (splitLast_suffix h2).trans (splitLast_suffix h)
      · exact splitLast_suffix h
    · exact splitLast_suffix h

theorem parseStrict_key_ne (a pre post : Bytes) {x y : UInt8} (h : x ≠ y) :
    (parseStrict (a ++ (pre ++ x :: post))).key ≠ pre ++ y :: post := by
  intro e
  have hk := parseStrict_key_suffix (a ++ (pre ++ x :: post))
  rw [e] at hk
  -- two tails of one list that are equally long are equal
  have := (List.suffix_of_suffix_length_le hk (List.suffix_append a _) (by simp)).eq_of_length (by simp)
  exact h (by simpa using this.symm)

/-- the attributes `finishPolicy` writes -/
def finishNames : List Bytes :=
  [nSecUseSession, nSid, nEnact, nNegotiatedSession, nAuthMethods, nUser, nAuthenticated, nCryptoMethods]

theorem lookup_finishPolicy_other (p : Policy) (sid u k : Bytes) (h : k ∉ finishNames) :
    (finishPolicy p sid u).lookup k = p.lookup k := by
  simp only [finishNames, List.mem_cons, List.mem_nil_iff, or_false, not_or] at h
  obtain ⟨h1, h2, h3, h4, h5, h6, h7, h8⟩ := h
  simp [finishPolicy, lookup_set, h1, h2, h3, h4, h5, h6, h7, h8]

/-- `User` is the peer identity each side attributes to the other -/
theorem lookup_finishPolicy_indep_user (p : Policy) (sid u1 u2 k : Bytes) (h : k ≠ nUser) :
    (finishPolicy p sid u1).lookup k = (finishPolicy p sid u2).lookup k := by
  simp only [finishPolicy, lookup_set, h, if_false]

theorem lookup_finishPolicy_nUser (p : Policy) (sid u : Bytes) :
    (finishPolicy p sid u).lookup nUser = some (.s u) := by
  simp (config := { decide := true }) only [finishPolicy, lookup_set, if_true, if_false]

/-- the cipher both sides record is the one actually keyed -/
theorem lookup_finishPolicy_nCryptoMethods (p : Policy) (sid u : Bytes) :
    (finishPolicy p sid u).lookup nCryptoMethods = some (.s sAESGCM) := by
  simp only [finishPolicy, lookup_set, if_true]

theorem embeddedExpiry_pos {p : Policy} {s : Int} (h : embeddedExpiry p = some s) : s > 0 := by
  unfold embeddedExpiry at h
  -- three nested tests (a string, an integer, positive); only the innermost answers `some`
  split at h
  · split at h
    · split at h
      · cases h; assumption
      · cases h
    · cases h
  · cases h

theorem claimExpiration_finish (p : Policy) (sid u : Bytes) (fb now : Int) :
    claimExpiration (finishPolicy p sid u) fb now = claimExpiration p fb now := by
  unfold claimExpiration embeddedExpiry Policy.evalStr
  rw [lookup_finishPolicy_other _ _ _ _ (by decide +kernel)]

theorem mapClaimCommands_finish (p : Policy) (sid u s addr tag : Bytes) (x : List Int) :
    mapClaimCommands (finishPolicy p sid u) s addr tag x = mapClaimCommands p s addr tag x := by
  unfold mapClaimCommands Policy.nonEmptyStr Policy.evalStr
  rw [lookup_finishPolicy_other _ _ _ _ (by decide +kernel)]

theorem deriveClaimKey_ok_iff {p : Policy} {secret : Bytes} {k : Key} :
    deriveClaimKey p secret = .ok k ↔
      (keyMethod p = sAES ∨ keyMethod p = sAESGCM) ∧ secret ≠ [] ∧ k = .hkdf secret := by
  unfold deriveClaimKey deriveSessionKey
  rw [ite_error_eq_ok, ite_error_eq_ok, Except.ok.injEq, eq_comm (a := k), Decidable.not_and_iff_not_or_not,
    Decidable.not_not, Decidable.not_not]

theorem importClaim_of_ok {c : Bytes} {o : ImportOpts} {now : Int} {im : Imported} (h : importClaim c o now = .ok im) :
    ∃ pol, (parseStrict c).secSessionId ≠ [] ∧ (parseStrict c).key ≠ [] ∧
      importInfo (parseStrict c).info = .ok pol ∧
      im = importResult (parseStrict c).secSessionId o now pol (.hkdf (parseStrict c).key) := by
  unfold importClaim at h
  obtain ⟨h1, h⟩ := ite_error_eq_ok.mp h
  obtain ⟨h2, h⟩ := ite_error_eq_ok.mp h
  split at h
  · cases h
  next pol hI =>
  split at h
  · cases h
  next key hK =>
  obtain rfl := (deriveClaimKey_ok_iff.mp hK).2.2
  exact ⟨pol, h1, h2, hI, (Except.ok.inj h).symm⟩

theorem importClaim_of_parse {c sid info key : Bytes} {pol : Policy} {k : Key} (o : ImportOpts) (now : Int)
    (hp : parseStrict c = { sid := sid, info := info, key := key }) (hsid : sid ≠ []) (hinfo : info ≠ [])
    (hI : importInfo info = .ok pol) (hK : deriveClaimKey pol key = .ok k) :
    importClaim c o now = .ok (importResult sid o now pol k) := by
  have hkey : key ≠ [] := (deriveClaimKey_ok_iff.mp hK).2.1
  unfold importClaim
  rw [hp]
  simp only [Parsed.secSessionId, if_neg hinfo, if_neg hsid, if_neg hkey, hI, hK]

theorem importFileTransfer_of_parse {c sid info key : Bytes} (o : ImportOpts) (now : Int)
    (hp : parseStrict c = { sid := sid, info := info, key := key }) (hsid : sid ≠ []) (hinfo : info ≠ [])
    (hkey : key ≠ []) :
    importFileTransfer c o now =
      .ok (ftResult (str CedarGen.security.fileTransferSessionPrefix ++ sid) o now (.hkdf key)) := by
  unfold importFileTransfer deriveSessionKey
  rw [hp]
  simp only [Parsed.secSessionId, if_neg hinfo, if_neg hsid, if_neg hkey]

/-- the order in which `exportFields` lists the seven possible attributes is the order the code's
    `sortStrings` (insertion sort, byte-wise) produces from them (checked on one arrangement of the
    seven names; other arrangements and sub-sets are not covered by this statement) -/
theorem exportNames_sorted :
    sortStrings [nValidCommands, nIntegrity, nShortVersion, nEncryption, nSessionExpires, nCryptoMethodsList, nCryptoMethods] =
      [nCryptoMethods, nCryptoMethodsList, nEncryption, nIntegrity, nSessionExpires, nShortVersion, nValidCommands] := by
  decide +kernel

theorem boolYesNo_clean (b : Option Bool) : 59 ∉ boolYesNo b ∧ boolYesNo b ≠ [] := by
  rcases b with _ | _ | _ <;> simp [boolYesNo, sYES, sNO]

theorem mintCipher_ne_nil (o : MintOpts) : mintCipher o ≠ [] := by
  unfold mintCipher
  split
  · decide
  · assumption

theorem wirePolicy_content (o : MintOpts) (now : Int) :
    (wirePolicy o now).nonEmptyStr nEncryption = some (boolYesNo o.encryption) ∧
    (wirePolicy o now).nonEmptyStr nIntegrity = some (boolYesNo o.integrity) ∧
    (wirePolicy o now).nonEmptyStr nValidCommands = (if o.validCommands = [] then none else some (joinInts o.validCommands)) ∧
    (wirePolicy o now).nonEmptyStr nCryptoMethods = some (mintCipher o) ∧
    (wirePolicy o now).nonEmptyStr nRemoteVersion = (if o.remoteVersion = [] then none else some o.remoteVersion) ∧
    (wirePolicy o now).lookup nSessionExpires = (if o.lifetime > 0 then some (.i (unixOf (now + o.lifetime))) else none) := by
  unfold Policy.nonEmptyStr Policy.evalStr
  -- a `set`, conditional or not, changes the lookup of its own name only; the names are distinct (`decide`)
  simp (config := { decide := true }) only [wirePolicy, apply_ite (List.lookup _), lookup_set, List.lookup_nil,
    if_true, if_false, ite_self]
  -- what is left says that the strings set are not empty
  refine ⟨if_neg (boolYesNo_clean _).2, if_neg (boolYesNo_clean _).2, ?_, if_neg (mintCipher_ne_nil o), ?_, trivial⟩
  · by_cases h : o.validCommands = []
    · simp only [h, if_true]
    · simp only [h, if_false, joinInts_ne_nil _ h]
  · by_cases h : o.remoteVersion = []
    · simp only [h, if_true]
    · simp only [h, if_false]

/-- minting options of the quantified domain: cipher names without ';' and '.', a version that is
    absent, compact or in the long form, and an expiry second that is positive and fits int64 -/
structure MintWf (o : MintOpts) (now : Int) : Prop where
  cipher : 59 ∉ mintCipher o ∧ 46 ∉ mintCipher o
  version : o.remoteVersion = [] ∨ VersionWf o.remoteVersion
  expiry : o.lifetime > 0 → 0 < unixOf (now + o.lifetime) ∧ unixOf (now + o.lifetime) ≤ 9223372036854775807

theorem infoWf_wire {o : MintOpts} {now : Int} (w : MintWf o now) : InfoWf (wirePolicy o now) := by
  obtain ⟨enc, int, vc, cm, rv, exp⟩ := wirePolicy_content o now
  refine ⟨?_, ?_, ?_, ?_, ?_, ?_⟩
  · intro v hv
    cases enc.symm.trans hv
    exact (boolYesNo_clean _).1
  · intro v hv
    cases int.symm.trans hv
    exact (boolYesNo_clean _).1
  · intro v hv
    obtain ⟨_, e⟩ := Option.ite_none_left_eq_some.mp (vc.symm.trans hv)
    cases e
    exact fun hm => absurd (joinInts_bytes _ 59 hm) (by decide)
  · intro v hv
    cases cm.symm.trans hv
    exact w.cipher
  · intro v hv
    obtain ⟨he, e⟩ := Option.ite_none_left_eq_some.mp (rv.symm.trans hv)
    cases e
    exact shortVersion_wf (w.version.resolve_left he)
  · intro v hv
    obtain ⟨hl, e⟩ := ite_then_of_ne (exp.symm.trans hv) nofun
    cases e
    have := w.expiry hl
    unfold Int64; omega

theorem sessionIdOf_ne_nil (o : MintOpts) : sessionIdOf o ≠ [] := by
  unfold sessionIdOf; simp

/-- what the holder of `sid#info` followed by the secret `s'` gets from it -/
structure Holder (sid info : Bytes) (pol : Policy) (s' : Bytes) (io : ImportOpts) (now' : Int) : Prop where
  parse : parseStrict (sid ++ 35 :: (info ++ s')) = { sid := sid, info := info, key := s' }
  claim : importClaim (sid ++ 35 :: (info ++ s')) io now' = .ok (importResult sid io now' pol (.hkdf s'))
  fileTransfer : importFileTransfer (sid ++ 35 :: (info ++ s')) io now' =
    .ok (ftResult (str CedarGen.security.fileTransferSessionPrefix ++ sid) io now' (.hkdf s'))

/-- `s'` is the minted secret or any other non-empty one free of '#' and ']' in its place: C16
    imports the id with both. The conjunction is `C16.SecretOk s'` unfolded: C16 passes its hypothesis as it is. -/
theorem import_of_mint {o : MintOpts} {now : Int} {secret : Bytes} {m : Minted} (h : mint o now secret = .ok m) :
    ∃ info pol, m = mintResult o now secret info pol (.hkdf secret) ∧
      exportInfo (wirePolicy o now) = .ok info ∧ importInfo info = .ok pol ∧ secret ≠ [] ∧
      ∀ (s' : Bytes), 35 ∉ s' ∧ 93 ∉ s' → s' ≠ [] → ∀ (io : ImportOpts) (now' : Int),
        Holder (sessionIdOf o) info pol s' io now' := by
  unfold mint at h
  replace h := (ite_error_eq_ok.mp (ite_error_eq_ok.mp h).2).2
  split at h
  · cases h
  next info hE =>
  split at h
  · cases h
  next pol hI =>
  split at h
  · cases h
  next key hK =>
  obtain ⟨hc, hs, rfl⟩ := deriveClaimKey_ok_iff.mp hK
  refine ⟨info, pol, (Except.ok.inj h).symm, hE, hI, hs, fun s' h' hne io now' => ?_⟩
  obtain ⟨rfl, hb⟩ := exportInfo_ok_iff.mp hE
  have hb' : (35 : UInt8) ∉ renderItems (exportFields (wirePolicy o now)) := fun hr => hb (by simp [render, hr])
  have hp := parseStrict_assembled (sessionIdOf o) _ s' hb' h'.1 h'.2
  have hi : render (exportFields (wirePolicy o now)) ≠ [] := List.cons_ne_nil _ _
  exact ⟨hp, importClaim_of_parse io now' hp (sessionIdOf_ne_nil o) hi hI (deriveClaimKey_ok_iff.mpr ⟨hc, hne, rfl⟩),
    importFileTransfer_of_parse io now' hp (sessionIdOf_ne_nil o) hi hne⟩

theorem reimported_of_mint {o : MintOpts} {now : Int} {info : Bytes} {pol : Policy} (w : MintWf o now)
    (hE : exportInfo (wirePolicy o now) = .ok info) (hI : importInfo info = .ok pol) :
    pol = reimported (wirePolicy o now) ∧ exportInfo pol = .ok info := by
  obtain ⟨h1, h2⟩ := exportInfo_roundtrip (infoWf_wire w) hE
  -- no `subst`: it would put `reimported …` into weak head normal form, through all of `policyOfAttrs`
  have e : pol = _ := Except.ok.inj (hI.symm.trans h1)
  exact ⟨e, e ▸ h2⟩

theorem minted_carries {o : MintOpts} {now : Int} {info : Bytes} {pol : Policy} (w : MintWf o now)
    (hE : exportInfo (wirePolicy o now) = .ok info) (hI : importInfo info = .ok pol) :
    pol.nonEmptyStr nEncryption = some (boolYesNo o.encryption) ∧
    pol.nonEmptyStr nIntegrity = some (boolYesNo o.integrity) ∧
    pol.nonEmptyStr nValidCommands = (if o.validCommands = [] then none else some (joinInts o.validCommands)) ∧
    pol.nonEmptyStr nCryptoMethods = some (mintCipher o) ∧
    pol.nonEmptyStr nRemoteVersion = (if o.remoteVersion = [] then none else some (shortVersion o.remoteVersion)) ∧
    pol.lookup nSessionExpires = (if o.lifetime > 0 then some (.s (fmtInt (unixOf (now + o.lifetime)))) else none) := by
  obtain ⟨enc, int, vc, cm, rv, exp⟩ := wirePolicy_content o now
  obtain ⟨enc', int', vc', cm', rv', exp'⟩ := reimported_carries (infoWf_wire w)
  rw [(reimported_of_mint w hE hI).1]
  refine ⟨enc'.trans enc, int'.trans int, vc'.trans vc, cm'.trans cm, ?_, ?_⟩
  · rw [rv', rv]
    split <;> rfl
  · rw [exp', expiresField, exp]
    by_cases hl : o.lifetime > 0
    · have hz : unixOf (now + o.lifetime) ≠ 0 := by have := (w.expiry hl).1; omega
      simp [hl, hz]
    · simp [hl]

theorem minted_expiry {o : MintOpts} {now : Int} {info : Bytes} {pol : Policy} (w : MintWf o now)
    (hE : exportInfo (wirePolicy o now) = .ok info) (hI : importInfo info = .ok pol) (sid u : Bytes) (fb t : Int) :
    claimExpiration (finishPolicy pol sid u) fb t =
      if o.lifetime > 0 then .unix (unixOf (now + o.lifetime)) else fallbackExpiry fb t := by
  obtain ⟨-, -, -, -, -, exp⟩ := minted_carries w hE hI
  rw [claimExpiration_finish]
  unfold claimExpiration embeddedExpiry Policy.evalStr
  rw [exp]
  by_cases hl : o.lifetime > 0
  · have he := w.expiry hl
    simp only [hl, if_true, trimSpace_fmtInt, parseInt64_fmtInt ⟨by omega, he.2⟩, he.1]
  · simp [hl]

theorem lookupLive_store (c : Cache) (e : Entry) (now : Int) :
    (c.store e).lookupLive e.id now = if e.expiry.expiredAt now then none else some e := by
  simp [Cache.lookupLive, Cache.store]

theorem resume_stored (ca cb : Cache) {a b : Entry} {sid : Bytes} (now : Int) (ha : a.id = sid) (hb : b.id = sid)
    (la : a.expiry.expiredAt now = false) (lb : b.expiry.expiredAt now = false) (hk : a.key = b.key) :
    resume (ca.store a) (cb.store b) sid now = .resumed true := by
  subst ha
  unfold resume
  rw [lookupLive_store, la, if_neg Bool.false_ne_true]
  simp only [← hb, lookupLive_store, lb, if_neg Bool.false_ne_true, hk, decide_true]

theorem resume_stored_ne (ca cb : Cache) {a b : Entry} {sid : Bytes} (now : Int) (ha : a.id = sid) (hb : b.id = sid)
    (hk : a.key ≠ b.key) : resume (ca.store a) (cb.store b) sid now ≠ .resumed true := by
  subst ha
  unfold resume
  rw [lookupLive_store]
  cases a.expiry.expiredAt now with
  | true => simp
  | false =>
    simp only [Bool.false_eq_true, if_false, ← hb, lookupLive_store]
    cases b.expiry.expiredAt now with
    | true => simp
    | false => simp [hk]

end Cedar.Claim
