/-
  Helper lemmas for C17, part 4. A stream is the product of its send side, its receive side and
  the shared part (`assemble`). On an established stream every send operation is an operation on
  the send side that only reads the shared part — run next to any receive side it computes the
  same outcome and leaves that receive side as it was — and symmetrically for receive operations.
  An interleaving of the two directions is therefore the product of the two solo runs.
-/
import CedarModel.Lockset

namespace Cedar.Lockset.Dir
open Cedar

theorem assemble_eta (s : Stream) : assemble (sendSide s) (recvSide s) (shared s) = s := rfl

@[simp] theorem sendSide_assemble (a : SendSide) (r : RecvSide) (c : Shared) : sendSide (assemble a r c) = a := rfl
@[simp] theorem recvSide_assemble (a : SendSide) (r : RecvSide) (c : Shared) : recvSide (assemble a r c) = r := rfl
@[simp] theorem shared_assemble (a : SendSide) (r : RecvSide) (c : Shared) : shared (assemble a r c) = c := rfl

def mapOk {α β : Type} (f : α → β) : Except Err α → Except Err β
  | .ok a => .ok (f a)
  | .error e => .error e

@[simp] theorem mapOk_ok {α β : Type} (f : α → β) (a : α) : mapOk f (.ok a) = .ok (f a) := rfl
@[simp] theorem mapOk_error {α β : Type} (f : α → β) (e : Err) : mapOk f (.error e : Except Err α) = .error e := rfl

/-- how the `_local` equations are proved: one level per `if` of the model function, outermost first -/
theorem mapOk_ite_congr {α β : Type} {f : α → β} {c : Prop} [Decidable c] {x y : Except Err β} {x' y' : Except Err α}
    (hx : x = mapOk f x') (hy : y = mapOk f y') : (if c then x else y) = mapOk f (if c then x' else y') := by
  subst hx hy
  split <;> rfl

/-- an outcome with its state moved next to receive side `r` (resp. send side `a`) and shared part `c` -/
abbrev onSend {β : Type} (r : RecvSide) (c : Shared) : Except Err (Stream × β) → Except Err (Stream × β) :=
  mapOk fun p => (assemble (sendSide p.1) r c, p.2)

abbrev onRecv {β : Type} (a : SendSide) (c : Shared) : Except Err (Stream × β) → Except Err (Stream × β) :=
  mapOk fun p => (assemble a (recvSide p.1) c, p.2)

/-- a `_local` equation read at `r' = r` says the outcome is a fixed point of `onSend r c`; hence the state of a
    successful outcome is `assemble _ r c`. Used as `rw` on the state variable. -/
theorem onSend_fix {β : Type} {r : RecvSide} {c : Shared} {x : Except Err (Stream × β)} (h : x = onSend r c x)
    {s1 : Stream} {b : β} (hx : x = .ok (s1, b)) : s1 = assemble (sendSide s1) r c := by
  subst hx
  injection h with h
  exact congrArg Prod.fst h

theorem onRecv_fix {β : Type} {a : SendSide} {c : Shared} {x : Except Err (Stream × β)} (h : x = onRecv a c x)
    {s1 : Stream} {b : β} (hx : x = .ok (s1, b)) : s1 = assemble a (recvSide s1) c := by
  subst hx
  injection h with h
  exact congrArg Prod.fst h

theorem dig_frozen (sf rf : Bytes) (sw rw : Bool) (x y : Digest) (b : Bytes) :
    let d : Dig := ⟨sf, rf, sw, rw, some x, some y⟩
    d.finalize = d ∧ d.feedSend b = d ∧ d.feedRecv b = d ∧ d.fs = x ∧ d.fr = y := by
  simp [Dig.finalize, Dig.feedSend, Dig.feedRecv, Dig.fs, Dig.fr]

theorem Established.frozen {c : Shared} (hE : Established c) :
    ∃ key iv enc au x y bs pa, c = ⟨key, iv, enc, au, some x, some y, bs, pa⟩ := by
  obtain ⟨key, iv, enc, au, fS, fR, bs, pa⟩ := c
  obtain ⟨x, rfl⟩ := Option.isSome_iff_exists.mp hE.1
  obtain ⟨y, rfl⟩ := Option.isSome_iff_exists.mp hE.2.1
  exact ⟨key, iv, enc, au, x, y, bs, pa, rfl⟩

section
variable {c : Shared} (hE : Established c) (a a' : SendSide) (r r' : RecvSide)
include hE
-- a lemma of this section takes, in this order, those of `hE a a' r r'` that its statement mentions

theorem sendFrame_local (d : Bytes) (flag : Nat) :
    (assemble a r c).sendFrame d flag = onSend r c ((assemble a r' c).sendFrame d flag) := by
  obtain ⟨key, iv, enc, au, x, y, bs, pa, rfl⟩ := hE.frozen
  obtain ⟨ctr, fsa, sb, se, sf, sw⟩ := a
  unfold Stream.sendFrame
  refine mapOk_ite_congr rfl ?_
  cases key with
  | none => rfl
  | some k =>
    cases enc with
    | false => rfl
    | true => exact mapOk_ite_congr rfl (mapOk_ite_congr rfl (by cases fsa <;> rfl))

theorem openBody_local (k : Nat) (f : WireFrame) : (assemble a r c).openBody k f = (assemble a' r c).openBody k f := by
  obtain ⟨key, iv, enc, au, x, y, bs, pa, rfl⟩ := hE.frozen
  rfl

theorem feedRecv_local (b : Bytes) : (assemble a r c).feedRecv b = assemble a r c := by
  obtain ⟨key, iv, enc, au, x, y, bs, pa, rfl⟩ := hE.frozen
  rfl

theorem afterOpen_local (iv : IV) :
    (assemble a r c).afterOpen iv = assemble a { r with decIV := iv, decCtr := r.decCtr + 1, finRecvAAD := true } c := by
  obtain ⟨key, eiv, enc, au, x, y, bs, pa, rfl⟩ := hE.frozen
  obtain ⟨div, dc, fra, rb, br, tm, im, rf, rw⟩ := r
  cases fra <;> rfl

omit hE in
/-- a non-empty frame taken in: what `ReceiveFrameWithEnd` and `ReceiveFrame` have in common (`g` makes
    the result out of the payload) -/
def recvBody {β : Type} (s : Stream) (g : Bytes → β) (f : WireFrame) : Except Err (Stream × β) :=
  match s.key, s.encrypted with
  | some k, true =>
    match s.openBody k f with
    | .error e => .error e
    | .ok (iv, p) => .ok ((s.afterOpen iv).feedRecv (hdrBytes f.flag f.len ++ p), g p)
  | _, _ =>
    match f.body with
    | .raw b => .ok (s.feedRecv (hdrBytes f.flag f.len ++ b), g b)
    | .ct _ _ => .error .malformed

theorem recvBody_local {β : Type} (g : Bytes → β) (f : WireFrame) :
    recvBody (assemble a r c) g f = onRecv a c (recvBody (assemble a' r c) g f) := by
  unfold recvBody
  simp only [openBody_local hE a a', feedRecv_local hE, afterOpen_local hE,
    show ∀ a, (assemble a r c).key = c.key from fun _ => rfl,
    show ∀ a, (assemble a r c).encrypted = c.encrypted from fun _ => rfl]
  obtain ⟨key, eiv, enc, au, fS, fR, bs, pa⟩ := c
  cases key with
  | none => cases f.body <;> rfl
  | some k =>
    cases enc with
    | false => cases f.body <;> rfl
    | true =>
      dsimp only
      generalize (assemble a' r _).openBody k f = o
      cases o <;> rfl

omit hE in
theorem recvFrameWithEnd_eq (s : Stream) (f : WireFrame) :
    s.recvFrameWithEnd f = match checkHdr f with
      | .error e => .error e
      | .ok () =>
        if f.len = 0 then
          if s.crypting then .error .plainOnKeyed else .ok (s.feedRecv (hdrBytes f.flag f.len), [], f.flag)
        else recvBody s (fun p => (p, f.flag)) f := rfl

omit hE in
theorem recvFrame_eq (s : Stream) (f : WireFrame) :
    s.recvFrame f = match checkHdr f with
      | .error e => .error e
      | .ok () =>
        if f.len = 0 then (if s.crypting then .error .plainOnKeyed else .ok (s, []))
        else recvBody s id f := rfl

theorem recvFrameWithEnd_local (f : WireFrame) :
    (assemble a r c).recvFrameWithEnd f = onRecv a c ((assemble a' r c).recvFrameWithEnd f) := by
  rw [recvFrameWithEnd_eq, recvFrameWithEnd_eq]
  cases checkHdr f with
  | error e => rfl
  | ok u =>
    refine mapOk_ite_congr (mapOk_ite_congr rfl ?_) (recvBody_local hE a a' r (fun p => (p, f.flag)) f)
    rw [feedRecv_local hE, feedRecv_local hE]
    rfl

theorem recvFrame_local (f : WireFrame) :
    (assemble a r c).recvFrame f = onRecv a c ((assemble a' r c).recvFrame f) := by
  rw [recvFrame_eq, recvFrame_eq]
  cases checkHdr f with
  | error e => rfl
  | ok u => exact mapOk_ite_congr (mapOk_ite_congr rfl rfl) (recvBody_local hE a a' r id f)

theorem prepareSecret_local : prepareSecret (assemble a r c) = assemble a r c :=
  if_neg fun h => by
    have h : c.key.isSome = true ∧ (!c.encrypted) = true := Bool.and_eq_true _ _ ▸ h
    rw [hE.2.2.1 h.1] at h
    exact Bool.false_ne_true h.2

theorem restoreSecret_local : restoreSecret (assemble a r c) = assemble a r c :=
  if_neg (by rw [show (assemble a r c).beforeSecret = c.beforeSecret from rfl, hE.2.2.2]; exact Bool.false_ne_true)

omit hE in
theorem restoreSecret_sides (s : Stream) :
    sendSide (restoreSecret s) = sendSide s ∧ recvSide (restoreSecret s) = recvSide s := by
  unfold restoreSecret; split <;> exact ⟨rfl, rfl⟩

omit hE in
/-- one frame sent and the buffer cleared: the common tail of `flushPartialFrame` and `EndMessage` -/
def sendAndClear (s : Stream) (b : Bytes) (flag : Nat) : Except Err (Stream × List WireFrame) :=
  match s.sendFrame b flag with
  | .error e => .error e
  | .ok (s1, f) => .ok ({ s1 with sendBuf := [] }, [f])

theorem sendAndClear_local (b : Bytes) (flag : Nat) :
    sendAndClear (assemble a r c) b flag = onSend r c (sendAndClear (assemble a r' c) b flag) := by
  unfold sendAndClear
  rw [sendFrame_local hE a r r']
  cases (assemble a r' c).sendFrame b flag <;> rfl

theorem flushPartial_local : (assemble a r c).flushPartial = onSend r c (assemble a r' c).flushPartial :=
  mapOk_ite_congr rfl (sendAndClear_local hE a r r' a.sendBuf 0)

theorem writeMessage_local (d : Bytes) :
    (assemble a r c).writeMessage d = onSend r c ((assemble a r' c).writeMessage d) :=
  mapOk_ite_congr rfl (mapOk_ite_congr (flushPartial_local hE { a with sendBuf := a.sendBuf ++ d } r r') rfl)

theorem endMessage_local : (assemble a r c).endMessage = onSend r c (assemble a r' c).endMessage :=
  mapOk_ite_congr rfl (sendAndClear_local hE { a with sendEOM := true } r r' a.sendBuf 1)

theorem recvCompleteAux_local : ∀ (w : List WireFrame) (r : RecvSide) (acc : Bytes),
    (assemble a r c).recvCompleteAux acc w = onRecv a c ((assemble a' r c).recvCompleteAux acc w)
  | [], _, _ => rfl
  | f :: w, r, acc => by
    unfold Stream.recvCompleteAux
    rw [recvFrameWithEnd_local hE a a']
    cases hx : (assemble a' r c).recvFrameWithEnd f with
    | error e => rfl
    | ok p =>
      obtain ⟨s1, d, flag⟩ := p
      rw [onRecv_fix (recvFrameWithEnd_local hE a' a' r f) hx]
      exact mapOk_ite_congr rfl (mapOk_ite_congr (recvCompleteAux_local w _ _) rfl)

theorem readNextFrame_local : ∀ (w : List WireFrame) (r : RecvSide),
    (assemble a r c).readNextFrame w = onRecv a c ((assemble a' r c).readNextFrame w)
  | [], _ => rfl
  | f :: w, r => by
    unfold Stream.readNextFrame
    rw [recvFrameWithEnd_local hE a a']
    cases hx : (assemble a' r c).recvFrameWithEnd f with
    | error e => rfl
    | ok p =>
      obtain ⟨s1, d, flag⟩ := p
      rw [onRecv_fix (recvFrameWithEnd_local hE a' a' r f) hx]
      generalize recvSide s1 = r1
      exact mapOk_ite_congr
        (readNextFrame_local w { r1 with recvBuf := r1.recvBuf ++ d, totalMsg := (r1.recvBuf ++ d).length }) rfl

theorem startMessageRead_local (w : List WireFrame) :
    (assemble a r c).startMessageRead w = onRecv a c ((assemble a' r c).startMessageRead w) := by
  refine mapOk_ite_congr rfl ?_
  rw [readNextFrame_local hE a a']
  cases (assemble a' r c).readNextFrame w <;> rfl

omit hE in
theorem readMessageBytes_local (n : Nat) :
    (assemble a r c).readMessageBytes n = onRecv a c ((assemble a' r c).readMessageBytes n) :=
  mapOk_ite_congr rfl (mapOk_ite_congr rfl rfl)

omit hE in
theorem endMessageRead_local :
    (assemble a r c).endMessageRead = mapOk (fun s => assemble a (recvSide s) c) (assemble a' r c).endMessageRead :=
  mapOk_ite_congr rfl (mapOk_ite_congr rfl rfl)

end

theorem applySend_local {c : Shared} (hE : Established c) (a : SendSide) (r r' : RecvSide) (op : SendOp) :
    applySend (assemble a r c) op = onSend r c (applySend (assemble a r' c) op) := by
  cases op with
  | frame d flag =>
    simp only [applySend, sendFrame_local hE a r r']
    cases (assemble a r' c).sendFrame d flag <;> rfl
  | write d => exact writeMessage_local hE a r r' d
  | endMsg => exact endMessage_local hE a r r'
  | startMsg => rfl
  | secret d =>
    simp only [applySend, prepareSecret_local hE, sendFrame_local hE a r r']
    cases (assemble a r' c).sendFrame (d ++ [0]) 1 with
    | error e => rfl
    | ok p => simp only [onSend, mapOk_ok, restoreSecret_local hE, (restoreSecret_sides p.1).1]

theorem applyRecv_local {c : Shared} (hE : Established c) (a a' : SendSide) (r : RecvSide) (w : List WireFrame)
    (op : RecvOp) :
    applyRecv (assemble a r c) w op = onRecv a c (applyRecv (assemble a' r c) w op) := by
  cases op with
  | frameEnd =>
    cases w with
    | nil => rfl
    | cons f w1 =>
      simp only [applyRecv, recvFrameWithEnd_local hE a a']
      cases (assemble a' r c).recvFrameWithEnd f <;> rfl
  | frame =>
    cases w with
    | nil => rfl
    | cons f w1 =>
      simp only [applyRecv, recvFrame_local hE a a']
      cases (assemble a' r c).recvFrame f <;> rfl
  | complete => exact recvCompleteAux_local hE a a' w r []
  | startRead =>
    simp only [applyRecv, startMessageRead_local hE a a']
    cases (assemble a' r c).startMessageRead w <;> rfl
  | readBytes n =>
    simp only [applyRecv, readMessageBytes_local a a']
    cases (assemble a' r c).readMessageBytes n <;> rfl
  | endRead =>
    simp only [applyRecv, endMessageRead_local a a']
    cases (assemble a' r c).endMessageRead <;> rfl
  | secret =>
    cases w with
    | nil => rfl
    | cons f w1 =>
      simp only [applyRecv, prepareSecret_local hE, recvFrame_local hE a a']
      cases (assemble a' r c).recvFrame f with
      | error e => rfl
      | ok p => simp only [onRecv, mapOk_ok, restoreSecret_local hE, (restoreSecret_sides p.1).2]

/-- `S`, `R`: the sender alone next to any receive side `r₀`, the receiver alone next to any send side `a₀` -/
theorem runWorld_product {c : Shared} (hE : Established c) (a₀ : SendSide) (r₀ : RecvSide) (w₀ : List WireFrame)
    (sd₀ rd₀ : Bool) (ops : List (Sum SendOp RecvOp)) :
    ∀ (a : SendSide) (r : RecvSide) (w : List WireFrame) (sd rd : Bool),
      let F := runWorld ⟨assemble a r c, w, sd, rd⟩ ops
      let S := runWorld ⟨assemble a r₀ c, w₀, sd, rd₀⟩ (sendsOf ops)
      let R := runWorld ⟨assemble a₀ r c, w, sd₀, rd⟩ (recvsOf ops)
      F.1 = ⟨assemble (sendSide S.1.s) (recvSide R.1.s) c, R.1.wire, S.1.sendDead, R.1.recvDead⟩ ∧
        F.2.filter Obs.isSent = S.2 ∧ F.2.filter (fun o => !o.isSent) = R.2 := by
  induction ops with
  | nil => exact fun _ _ _ _ _ => ⟨rfl, rfl, rfl⟩
  | cons o t ih =>
    intro a r w sd rd
    cases o with
    | inl op =>
      simp only [runWorld, sendsOf, recvsOf, stepWorld]
      cases sd with
      | true => exact ih a r w true rd
      | false =>
        simp only [Bool.false_eq_true, if_false, applySend_local hE a r r₀ op]
        cases hx : applySend (assemble a r₀ c) op with
        | error e =>
          obtain ⟨h1, h2, h3⟩ := ih a r w true rd
          exact ⟨h1, congrArg _ h2, h3⟩
        | ok p =>
          obtain ⟨s1, fs⟩ := p
          rw [onSend_fix (applySend_local hE a r₀ r₀ op) hx]
          obtain ⟨h1, h2, h3⟩ := ih (sendSide s1) r w false rd
          exact ⟨h1, congrArg _ h2, h3⟩
    | inr op =>
      simp only [runWorld, sendsOf, recvsOf, stepWorld]
      cases rd with
      | true => exact ih a r w sd true
      | false =>
        simp only [Bool.false_eq_true, if_false, applyRecv_local hE a a₀ r w op]
        cases hx : applyRecv (assemble a₀ r c) w op with
        | error e =>
          obtain ⟨h1, h2, h3⟩ := ih a r w sd true
          exact ⟨h1, h2, congrArg _ h3⟩
        | ok p =>
          obtain ⟨s1, d, w1⟩ := p
          rw [onRecv_fix (applyRecv_local hE a₀ a₀ r w op) hx]
          obtain ⟨h1, h2, h3⟩ := ih a (recvSide s1) w1 sd false
          exact ⟨h1, h2, congrArg _ h3⟩

end Cedar.Lockset.Dir
