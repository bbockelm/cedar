/-
  Lemmas for C18 over CedarModel/FsPath.lean, and the shape predicates its statements use.
  Lexical part: `splitB` cuts at every separator and `joinB` undoes it; from these,
  `eq_dir_slash_base`: a canonical absolute path is `Dir ++ "/" ++ Base`.
  Each recogniser of the model is refined once to its existential shape, the validator to
  the conjunction of its checks (`validate_of_ok`), and each exchange is characterised once
  (`client_of_path`, `server_cases`).
-/
import CedarModel.FsPath
import CedarProofs.Util

namespace Cedar.FsPath

-- instance search for `LawfulBEq UInt8` ends at this instance, but only after every order class of `Std` has failed;
-- tried first, membership tests and `==` lemmas on bytes find it at once (the instance found is the same)
attribute [local instance 1100] instLawfulBEq

/-- for the `decide`d non-vacuity examples -/
instance instDecEqExcept {ε α : Type} [DecidableEq ε] [DecidableEq α] : DecidableEq (Except ε α) :=
  fun a b => match a, b with
  | .ok x, .ok y => if h : x = y then isTrue (by rw [h]) else isFalse (fun e => h (by injection e))
  | .error x, .error y => if h : x = y then isTrue (by rw [h]) else isFalse (fun e => h (by injection e))
  | .ok _, .error _ => isFalse (fun e => by injection e)
  | .error _, .ok _ => isFalse (fun e => by injection e)

/-- A string literal is `String.ofList` of its characters by definition. Rewriting with this lemma
    (`rw` unifies up to that unfolding, `simp` does not) before evaluating spares the kernel the UTF-8
    decoding that `String.toList` of a literal costs, which otherwise dominates the examples. -/
theorem asciiBytes_ofList (l : List Char) :
    asciiBytes (String.ofList l) = l.map (fun c => UInt8.ofNat c.toNat) := by
  rw [asciiBytes, String.toList_ofList]

theorem splitB_ne_nil (sep : UInt8) (s : Bytes) : splitB sep s ≠ [] := by
  cases s with
  | nil => simp [splitB]
  | cons c cs =>
    simp only [splitB]
    split
    · simp
    · split <;> simp

theorem splitB_append_sep (sep : UInt8) (a b : Bytes) :
    splitB sep (a ++ sep :: b) = splitB sep a ++ splitB sep b := by
  induction a with
  | nil => simp [splitB]
  | cons c a ih =>
    by_cases hc : c = sep
    · simp [splitB, hc, ← ih]
    · simp only [List.cons_append, splitB, if_neg hc, ih]
      cases hs : splitB sep a with
      | nil => exact absurd hs (splitB_ne_nil sep a)
      | cons h t => simp

theorem splitB_nosep (sep : UInt8) (l : Bytes) (h : sep ∉ l) : splitB sep l = [l] := by
  induction l with
  | nil => rfl
  | cons c cs ih => simp [splitB, (List.ne_of_not_mem_cons h).symm, ih (List.not_mem_of_not_mem_cons h)]

theorem joinB_cons_cons (sep c : UInt8) (h : Bytes) (t : List Bytes) :
    joinB sep ((c :: h) :: t) = c :: joinB sep (h :: t) := by
  cases t <;> rfl

theorem joinB_splitB (sep : UInt8) (s : Bytes) : joinB sep (splitB sep s) = s := by
  induction s with
  | nil => rfl
  | cons c cs ih =>
    unfold splitB
    cases hs : splitB sep cs with
    | nil => exact absurd hs (splitB_ne_nil sep cs)
    | cons h t =>
      rw [hs] at ih
      split
      · next hc => rw [hc, ← ih]; rfl
      · rw [joinB_cons_cons, ih]

theorem joinB_append_singleton (sep : UInt8) (xs : List Bytes) (l : Bytes) (h : xs ≠ []) :
    joinB sep (xs ++ [l]) = joinB sep xs ++ sep :: l := by
  induction xs with
  | nil => exact absurd rfl h
  | cons a t ih =>
    cases t with
    | nil => simp [joinB]
    | cons b t' =>
      have := ih (by simp)
      simp only [List.cons_append] at this ⊢
      simp [joinB, this]

theorem stripPrefix_eq_some_iff {pfx s r : Bytes} : stripPrefix pfx s = some r ↔ s = pfx ++ r := by
  induction pfx generalizing s with
  | nil => simp [stripPrefix]
  | cons a as ih =>
    cases s with
    | nil => simp [stripPrefix]
    | cons b bs => simp [stripPrefix, ih, @eq_comm _ a]

theorem dirPart_append_lastComp (p : Bytes) : dirPart p ++ lastComp p = p := by
  unfold dirPart lastComp
  rw [← List.reverse_append, List.takeWhile_append_dropWhile, List.reverse_reverse]

theorem slash_not_mem_lastComp (p : Bytes) : slash ∉ lastComp p := fun h => by
  have := List.all_eq_true.mp List.all_takeWhile _ (List.mem_reverse.mp h)
  simp at this

theorem dirPart_of_abs {p : Bytes} (h : isAbs p = true) : ∃ d, dirPart p = d ++ [slash] := by
  have hA := dirPart_append_lastComp p
  unfold dirPart at hA ⊢
  have hnot := List.head?_dropWhile_not (· ≠ slash) p.reverse
  cases hd : p.reverse.dropWhile (· ≠ slash) with
  | cons x t =>
    rw [hd] at hnot
    have hx : x = slash := by simpa using hnot
    exact ⟨t.reverse, by rw [List.reverse_cons, hx]⟩
  | nil =>
    -- no slash at all: impossible, the first byte is one
    rw [hd] at hA
    have hm : slash ∈ p := List.mem_of_mem_head? (by simpa [isAbs] using h)
    rw [← hA] at hm
    exact absurd hm (slash_not_mem_lastComp p)

theorem base_of_lastComp_ne_nil {p : Bytes} (h : lastComp p ≠ []) : base p = lastComp p := by
  have hq : (p.reverse.dropWhile (· = slash)).reverse = p := by
    cases hr : p.reverse with
    | nil => simp_all
    | cons x xs =>
      have hx : x ≠ slash := fun hx => h (by simp [lastComp, hr, hx])
      rw [List.dropWhile_cons_of_neg (by simpa using hx), ← hr, List.reverse_reverse]
  have hp : p ≠ [] := fun e => h (by rw [e]; rfl)
  simp only [base, if_neg hp, hq, if_neg h]

theorem clean_abs_snoc {d l : Bytes} (habs : isAbs (d ++ slash :: l) = true) (hl : slash ∉ l) :
    clean (d ++ slash :: l) =
      render true (cleanStep true ((splitB slash d).foldl (cleanStep true) []) l) := by
  unfold clean
  rw [if_neg (by simp), habs, splitB_append_sep, splitB_nosep slash l hl, List.foldl_append]
  rfl

theorem cleanStep_normal {rooted : Bool} {S : List Bytes} {l : Bytes} (h0 : l ≠ []) (h1 : l ≠ dot) (h2 : l ≠ dotdot) :
    cleanStep rooted S l = l :: S := by
  unfold cleanStep
  rw [if_neg (by simp [h0, h1]), if_neg h2]

theorem render_cons {rooted : Bool} {S : List Bytes} {l : Bytes} (hS : S ≠ []) :
    render rooted (l :: S) = render rooted S ++ slash :: l := by
  unfold render
  rw [List.reverse_cons, joinB_append_singleton slash S.reverse l (by simpa using hS)]
  cases rooted <;> simp [hS]

/-- `Clean` pushes an ordinary last component onto the stack of `d`, which renders as `Clean (d/)` unless empty (`"/"`) -/
theorem clean_snoc_normal {d l : Bytes} (habs : isAbs (d ++ slash :: l) = true) (hl : slash ∉ l)
    (h0 : l ≠ []) (h1 : l ≠ dot) (h2 : l ≠ dotdot) (hroot : (clean (d ++ [slash])).getLast? ≠ some slash) :
    clean (d ++ slash :: l) = clean (d ++ [slash]) ++ slash :: l := by
  have hd := clean_abs_snoc (d := d) (l := []) (by cases d <;> exact habs) (by simp)
  have hS : (splitB slash d).foldl (cleanStep true) [] ≠ [] := fun e => hroot (by rw [hd, e]; rfl)
  rw [clean_abs_snoc habs hl, cleanStep_normal h0 h1 h2, render_cons hS, hd]
  rfl

theorem eq_dir_slash_base {p : Bytes} (habs : isAbs p = true) (hclean : clean p = p)
    (hroot : (dir p).getLast? ≠ some slash) (hdot : base p ≠ dot) (hdd : base p ≠ dotdot) :
    p = dir p ++ slash :: base p ∧ base p ≠ [] := by
  obtain ⟨d, hd⟩ := dirPart_of_abs habs
  have hp : p = d ++ slash :: lastComp p := by rw [List.append_cons, ← hd, dirPart_append_lastComp]
  rw [dir, hd] at hroot ⊢
  by_cases hl : lastComp p = []
  · -- p ends with a slash: then p = Dir p
    rw [hl] at hp
    rw [← hp, hclean, hp] at hroot
    exact absurd List.getLast?_concat hroot
  · rw [base_of_lastComp_ne_nil hl] at hdot hdd ⊢
    have h1 := clean_snoc_normal (hp ▸ habs) (slash_not_mem_lastComp p) hl hdot hdd hroot
    rw [← hp, hclean] at h1
    exact ⟨h1, hl⟩

/-! All that the proofs use of the regenerated `fsAuthBaseDir`: -/

theorem baseDir_head : baseDir.head? = some slash := by decide +kernel
theorem baseDir_getLast : baseDir.getLast? ≠ some slash := by decide +kernel
theorem dotdot_not_mem_baseDir : dotdot ∉ splitB slash baseDir := by decide +kernel

theorem validate_of_ok {p : Bytes} {remote : Bool} {peer : Peer} {leaf : Bytes}
    (h : validate p remote peer = .ok leaf) :
    isAbs p = true ∧ clean p = p ∧ dir p = baseDir ∧ leaf = base p ∧
    slash ∉ leaf ∧ (0 : UInt8) ∉ leaf ∧ leaf ≠ dot ∧ leaf ≠ dotdot ∧
    ((∃ ip port, fsAddrLeaf leaf remote = some (ip, port) ∧ verifyEndpoint ip port peer = .ok ()) ∨
     (fsAddrLeaf leaf remote = none ∧ (if remote then matchRemoteRE leaf else matchLocalRE leaf) = true)) := by
  rw [validate] at h
  simp only [ite_error_eq_ok] at h
  obtain ⟨-, habs, hcl, hdir, hleaf, h⟩ := h
  simp only [Bool.not_eq_false, Decidable.not_not, not_or, List.contains_eq_mem, decide_eq_true_eq]
    at habs hcl hdir hleaf
  obtain ⟨hs, hz, hd, hdd⟩ := hleaf
  refine ⟨habs, hcl, hdir, ?_⟩
  cases ha : fsAddrLeaf (base p) remote with
  | some ipport =>
    obtain ⟨ip, port⟩ := ipport
    rw [ha] at h
    dsimp only at h
    cases he : verifyEndpoint ip port peer with
    | error e => rw [he] at h; cases h
    | ok u =>
      rw [he] at h
      cases h
      exact ⟨rfl, hs, hz, hd, hdd, Or.inl ⟨ip, port, ha, he⟩⟩
  | none =>
    rw [ha] at h
    dsimp only at h
    obtain ⟨hm, h⟩ := ite_else_of_ne h nofun
    cases h
    exact ⟨rfl, hs, hz, hd, hdd, Or.inr ⟨ha, Bool.of_not_eq_false hm⟩⟩

/-- the random suffix -/
def Alnum16 (s : Bytes) : Prop := 1 ≤ s.length ∧ s.length ≤ 16 ∧ ∀ c ∈ s, isAlnum c = true

/-- `FS_<rand>` -/
def LocalShape (leaf : Bytes) : Prop := ∃ r, leaf = pfxLocal ++ r ∧ Alnum16 r

/-- `FS_REMOTE_<host>_<pid>_<rand>` -/
def RemoteShape (leaf : Bytes) : Prop :=
  ∃ host pid r, leaf = pfxRemote ++ (host ++ us :: (pid ++ us :: r)) ∧
    host ≠ [] ∧ (∀ c ∈ host, isHostCh c = true) ∧ pid ≠ [] ∧ (∀ c ∈ pid, isDigit c = true) ∧ Alnum16 r

/-- `FS[_REMOTE]_<ip>_<port>_<rand>` whose `<ip>:<port>` IS the connection's peer endpoint:
    same port string, and both address strings parse to the same 16-byte address -/
def AddrShape (remote : Bool) (peer : Peer) (leaf : Bytes) : Prop :=
  ∃ ip port r ph a, leaf = (if remote then pfxRemote else pfxLocal) ++ (ip ++ us :: (port ++ us :: r)) ∧
    peer = .hp ph port ∧ parseIP ip = some a ∧ parseIP ph = some a ∧
    1 ≤ port.length ∧ port.length ≤ 5 ∧ (∀ c ∈ port, isDigit c = true) ∧ Alnum16 r

/-- the property's "recognised shapes" -/
def Recognised (remote : Bool) (peer : Peer) (leaf : Bytes) : Prop :=
  AddrShape remote peer leaf ∨ (remote = false ∧ LocalShape leaf) ∨ (remote = true ∧ RemoteShape leaf)

theorem suffixOk_iff {s : Bytes} : suffixOk s = true ↔ Alnum16 s := by
  unfold suffixOk Alnum16
  simp only [Bool.and_eq_true, decide_eq_true_eq, List.all_eq_true, and_assoc]

theorem matchLocalRE_iff {leaf : Bytes} : matchLocalRE leaf = true ↔ LocalShape leaf := by
  unfold matchLocalRE LocalShape
  simp only [← stripPrefix_eq_some_iff, ← suffixOk_iff]
  cases stripPrefix pfxLocal leaf <;> simp

theorem remoteShape_of_matchRemoteRE {leaf : Bytes} (h : matchRemoteRE leaf = true) : RemoteShape leaf := by
  unfold matchRemoteRE at h
  cases hs : stripPrefix pfxRemote leaf with
  | none => rw [hs] at h; cases h
  | some rest =>
    rw [hs] at h; dsimp only at h
    rcases hr : (splitB us rest).reverse with _ | ⟨rnd, _ | ⟨pid, _ | ⟨hh, hs'⟩⟩⟩ <;> rw [hr] at h
    · cases h
    · cases h
    · cases h
    simp only [Bool.and_eq_true, decide_eq_true_eq, List.all_eq_true] at h
    obtain ⟨⟨⟨⟨hrnd, hpid⟩, hpidd⟩, hhost⟩, hhostc⟩ := h
    refine ⟨joinB us (hh :: hs').reverse, pid, rnd, ?_, hhost, hhostc, hpid, hpidd, suffixOk_iff.mp hrnd⟩
    have hsplit : splitB us rest = ((hh :: hs').reverse ++ [pid]) ++ [rnd] := by
      rw [← List.reverse_reverse (splitB us rest), hr]; simp
    rw [stripPrefix_eq_some_iff.mp hs, ← joinB_splitB us rest, hsplit,
      joinB_append_singleton _ _ _ (by simp), joinB_append_singleton _ _ _ (by simp)]
    simp

theorem verifyEndpoint_of_ok {ip port : Bytes} {peer : Peer} (h : verifyEndpoint ip port peer = .ok ()) :
    ∃ ph a, peer = .hp ph port ∧ parseIP ip = some a ∧ parseIP ph = some a := by
  unfold verifyEndpoint at h
  split at h
  · contradiction
  · contradiction
  next ph pp =>
  obtain ⟨hpp, h⟩ := ite_error_eq_ok.mp h
  split at h
  · next a b h1 h2 => exact ⟨ph, a, by rw [Decidable.not_not.mp hpp], h1, (ite_then_of_ne h nofun).1 ▸ h2⟩
  · contradiction

theorem fsAddrLeaf_of_some {leaf ip port : Bytes} {remote : Bool} (h : fsAddrLeaf leaf remote = some (ip, port)) :
    ∃ r, leaf = (if remote then pfxRemote else pfxLocal) ++ (ip ++ us :: (port ++ us :: r)) ∧
      (parseIP ip).isSome ∧ 1 ≤ port.length ∧ port.length ≤ 5 ∧ (∀ c ∈ port, isDigit c = true) ∧ Alnum16 r := by
  unfold fsAddrLeaf at h
  cases hs : stripPrefix (if remote then pfxRemote else pfxLocal) leaf with
  | none => rw [hs] at h; contradiction
  | some rest =>
    rw [hs] at h; dsimp only at h
    replace h := (Option.ite_none_left_eq_some.mp h).2
    split at h
    · next f0 f1 f2 hsp =>
      simp only [Option.ite_none_left_eq_some, Option.some.injEq, Prod.mk.injEq] at h
      obtain ⟨c1, c2, c3, rfl, rfl⟩ := h
      simp only [not_or, Bool.not_eq_true, Option.isNone_eq_false_iff, Bool.not_eq_false, Nat.not_lt,
        List.all_eq_true] at c1 c2 c3
      refine ⟨f2, ?_, c1.1, c2.1, by omega, c3, suffixOk_iff.mp c1.2⟩
      rw [stripPrefix_eq_some_iff.mp hs, ← joinB_splitB us rest, hsp]; rfl
    · contradiction

theorem created_of_some {env : Env} {remote : Bool} {p leaf : Bytes} (h : created env remote p = some leaf) :
    validate p remote env.peer = .ok leaf := by
  unfold created at h
  replace h := (Option.ite_none_left_eq_some.mp h).2
  split at h
  · contradiction
  · next hv => rw [hv, Option.some.inj (ite_then_of_ne h nofun).2]

theorem created_none {env : Env} {remote : Bool} {p : Bytes}
    (h : p = [] ∨ ∃ e, validate p remote env.peer = .error e) : created env remote p = none := by
  unfold created
  split
  · rfl
  · obtain h | ⟨e, he⟩ := h
    · contradiction
    · rw [he]

/-- how the rest of the exchange goes (send failure, verdict) only shows in `ret` -/
theorem client_of_path {env : Env} {remote : Bool} {m : PathMsg} {p : Bytes} (hr : recvPath m = .ok p) :
    (client env remote m).eff = effOf .mkdir (created env remote p) ++ effOf .remove (created env remote p) ∧
    (client env remote m).reply = some (if (created env remote p).isSome then 0 else -1) := by
  simp only [client, hr]
  cases env.sendOk <;> exact ⟨rfl, rfl⟩

theorem verifyDir_eq_some_iff {st : Option Stat} {lookup : Nat → Option Bytes} {name : Bytes} :
    verifyDir st lookup = some name ↔
    ∃ s, st = some s ∧ s.isDir = true ∧ s.isSymlink = false ∧ s.perm = 0o700 ∧
      (s.nlink = 1 ∨ s.nlink = 2) ∧ lookup s.uid = some name := by
  cases st with
  | none => simp [verifyDir]
  | some s => simp [verifyDir, and_assoc]

/-- `sendOk` only shows in `ret`, and only ever turns it into a failure -/
theorem server_of_result {env : SrvEnv} {n : Int} {u : Option Bytes} (hg : env.genOk ≠ false)
    (hc : env.cli = .result n) (hu : u = if n = 0 then verifyDir env.lstat env.lookup else none) :
    ∃ r, server env = ⟨some (if u.isSome then 0 else -1), u, decide (n = 0), r⟩ ∧ (r = .ok () → u.isSome) := by
  rw [server, if_neg hg, hc, hu]
  by_cases hs : env.sendOk = false
  · exact ⟨_, if_pos hs, nofun⟩
  · exact ⟨_, if_neg hs, fun h => (ite_then_of_ne h nofun).1⟩

theorem server_cases (env : SrvEnv) :
    ((server env).user = none ∧ (server env).result ≠ some 0 ∧ (server env).ret ≠ .ok ()) ∨
    ∃ name, env.cli = .result 0 ∧ verifyDir env.lstat env.lookup = some name ∧
      (server env).user = some name ∧ (server env).result = some 0 := by
  by_cases hg : env.genOk = false
  · left; simp [server, hg]
  cases hc : env.cli with
  | fail => left; simp [server, hg, hc]
  | extra => left; simp [server, hg, hc]
  | result n =>
    obtain ⟨r, hs, hr⟩ := server_of_result hg hc rfl
    rw [hs]
    cases hv : (if n = 0 then verifyDir env.lstat env.lookup else none) with
    | none =>
      rw [hv] at hr
      exact .inl ⟨rfl, fun h => absurd (Option.some.inj h) (by decide), fun h => nomatch hr h⟩
    | some name =>
      obtain ⟨hn, hd⟩ := ite_then_of_ne hv nofun
      exact .inr ⟨name, hn ▸ rfl, hd, rfl, rfl⟩

end Cedar.FsPath
