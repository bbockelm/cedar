/-
  Facts about CedarModel/Basic.lean: big-endian encoding read back, and 64-bit two's complement.
-/
import CedarModel.Basic

namespace Cedar

@[simp] theorem length_beN (n v : Nat) : (beN n v).length = n := by
  induction n with
  | zero => rfl
  | succ n ih => simp [beN, ih]

theorem beVal_beN_mod (n v : Nat) : beVal (beN n v) = v % 256 ^ n := by
  induction n with
  | zero => simp [beN, beVal, Nat.mod_one]
  | succ n ih =>
    simp only [beN, beVal, length_beN, UInt8.toNat_ofNat', ih]
    have := @Nat.mod_pow_succ v 256 n
    rw [this, Nat.mul_comm, Nat.add_comm, show (2 : Nat) ^ 8 = 256 from rfl, Nat.mod_mod]

theorem beVal_beN (n v : Nat) (h : v < 256 ^ n) : beVal (beN n v) = v := by
  rw [beVal_beN_mod, Nat.mod_eq_of_lt h]

theorem beVal_be64 (v : Nat) (h : v < 2^64) : beVal (be64 v) = v := beVal_beN 8 v h

theorem beVal_be32' (v : Nat) (h : v < 2^32) : beVal (be32 v) = v := beVal_beN 4 v h

theorem beVal_be16 (v : Nat) (h : v < 2^16) : beVal (be16 v) = v := beVal_beN 2 v h

@[simp] theorem length_be64 (v : Nat) : (be64 v).length = 8 := length_beN 8 v

theorem ofU64_toU64 (v : Int) (h1 : -(2^63 : Int) ≤ v) (h2 : v < (2^63 : Int)) : ofU64 (toU64 v) = v := by
  unfold ofU64 toU64; omega

theorem toU64_lt (v : Int) : toU64 v < 2 ^ 64 := by
  unfold toU64; omega

theorem toU64_nat (n : Nat) (h : n < 2^64) : toU64 (n : Int) = n := by
  unfold toU64; omega

theorem toI32_small (n : Nat) (h : n < 2^31) : toI32 (n : Int) = n := by
  unfold toI32; simp only []; omega

theorem ofU64_beVal_be64_toU64 (v : Int) (h1 : -(2^63 : Int) ≤ v) (h2 : v < (2^63 : Int)) :
    ofU64 (beVal (be64 (toU64 v))) = v := by
  rw [beVal_be64 _ (toU64_lt v), ofU64_toU64 v h1 h2]

end Cedar
