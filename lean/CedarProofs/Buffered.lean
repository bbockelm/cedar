/-
  The buffered writer (StartMessage, WriteMessage*, EndMessage) is a client of sendMessageWithEnd
  (C01): whatever pattern of writes and threshold flushes, one buffered message goes out as a run of
  partial frames and one final frame whose payloads concatenate to the concatenation of the writes.
  Over `s.withSend b e` (StreamOps.lean) the frame sends are those of `s` itself; a hypothesis about
  a plain `s` enters the `_spec` lemmas as `(withSend_self s).symm ▸ h`.
-/
import CedarProofs.StreamOps

namespace Cedar

def Stream.writeAll (s : Stream) : List Bytes → Except Err (Stream × List WireFrame)
  | [] => .ok (s, [])
  | d :: ds =>
    match s.writeMessage d with
    | .error e => .error e
    | .ok (s1, fs) =>
      match s1.writeAll ds with
      | .error e => .error e
      | .ok (s2, gs) => .ok (s2, fs ++ gs)

def Stream.sendBuffered (s : Stream) (ws : List Bytes) : Except Err (Stream × List WireFrame) :=
  match s.startMessage.writeAll ws with
  | .error e => .error e
  | .ok (s1, fs) =>
    match s1.endMessage with
    | .error e => .error e
    | .ok (s2, gs) => .ok (s2, fs ++ gs)

def Stream.sendBufferedAll (s : Stream) : List (List Bytes) → Except Err (Stream × List WireFrame)
  | [] => .ok (s, [])
  | ws :: rest =>
    match s.sendBuffered ws with
    | .error e => .error e
    | .ok (s1, fs) =>
      match s1.sendBufferedAll rest with
      | .error e => .error e
      | .ok (s2, gs) => .ok (s2, fs ++ gs)

theorem seq_append_ok {x : Except Err (Stream × List WireFrame)} {k : Stream → Except Err (Stream × List WireFrame)}
    {s' : Stream} {fs : List WireFrame} :
    (match x with
      | .error e => .error e
      | .ok (s1, fa) =>
        match k s1 with
        | .error e => .error e
        | .ok (s2, fb) => .ok (s2, fa ++ fb)) = Except.ok (s', fs) ↔
      ∃ s1 fa fb, x = .ok (s1, fa) ∧ k s1 = .ok (s', fb) ∧ fs = fa ++ fb := by
  cases x with
  | error e => exact ⟨fun h => (nomatch h), fun ⟨_, _, _, h, _⟩ => nomatch h⟩
  | ok x =>
    obtain ⟨s1, fa⟩ := x
    dsimp only
    cases hr : k s1 with
    | error e => exact ⟨fun h => (nomatch h), fun ⟨_, _, _, h, h', _⟩ => by cases h; rw [hr] at h'; cases h'⟩
    | ok y =>
      exact ⟨fun h => by cases h; exact ⟨_, _, _, rfl, hr, rfl⟩,
             fun ⟨_, _, _, h, h', e⟩ => by cases h; rw [hr] at h'; cases h'; rw [e]⟩

theorem writeAll_cons_ok {s s' : Stream} {d : Bytes} {ds : List Bytes} {fs : List WireFrame} :
    s.writeAll (d :: ds) = .ok (s', fs) ↔
      ∃ s1 fa fb, s.writeMessage d = .ok (s1, fa) ∧ s1.writeAll ds = .ok (s', fb) ∧ fs = fa ++ fb := by
  rw [Stream.writeAll]
  exact seq_append_ok (k := (·.writeAll ds))

theorem sendBuffered_ok {s s' : Stream} {ws : List Bytes} {fs : List WireFrame} :
    s.sendBuffered ws = .ok (s', fs) ↔
      ∃ s1 fa fb, s.startMessage.writeAll ws = .ok (s1, fa) ∧ s1.endMessage = .ok (s', fb) ∧ fs = fa ++ fb :=
  seq_append_ok (k := Stream.endMessage)

theorem sendBufferedAll_cons_ok {s s' : Stream} {ws : List Bytes} {rest : List (List Bytes)} {fs : List WireFrame} :
    s.sendBufferedAll (ws :: rest) = .ok (s', fs) ↔
      ∃ s1 fa fb, s.sendBuffered ws = .ok (s1, fa) ∧ s1.sendBufferedAll rest = .ok (s', fb) ∧ fs = fa ++ fb := by
  rw [Stream.sendBufferedAll]
  exact seq_append_ok (k := (·.sendBufferedAll rest))

theorem writeAll_spec : ∀ {ws : List Bytes} (s : Stream) (b : Bytes) {s1 : Stream} {fs : List WireFrame},
    (s.withSend b false).writeAll ws = .ok (s1, fs) →
    ∃ ops t b', (∀ op ∈ ops, op.2 = 0) ∧ s.sendAll ops = .ok (t, fs) ∧ s1 = t.withSend b' false ∧
      (ops.map Prod.fst).flatten ++ b' = b ++ ws.flatten
  | [], s, b, _, _, h => by cases h; exact ⟨[], s, b, nofun, rfl, rfl, by simp⟩
  | d :: ds, s, b, s1, fs, h => by
    obtain ⟨sa, fa, fb, hw, hr, rfl⟩ := writeAll_cons_ok.mp h
    obtain ⟨-, ⟨-, rfl, rfl⟩ | ⟨-, s2, f, hsf, rfl, rfl⟩⟩ := writeMessage_ok.mp hw
    · obtain ⟨ops, t, b', hz, hsend, hst, hcat⟩ := writeAll_spec s (b ++ d) hr
      exact ⟨ops, t, b', hz, hsend, hst, by rw [hcat]; simp⟩
    · obtain ⟨t, ht, rfl⟩ := (sendFrame_withSend (s := s) (b := b ++ d) (e := false)).mp hsf
      obtain ⟨ops, u, b', hz, hsend, hst, hcat⟩ := writeAll_spec t [] hr
      exact ⟨(b ++ d, 0) :: ops, u, b', List.forall_mem_cons.mpr ⟨rfl, hz⟩,
        sendAll_cons_ok.mpr ⟨t, f, _, ht, hsend, rfl⟩, hst, by simp [hcat]⟩

theorem messagesOf_partials : ∀ (ops : List SendOp) (acc last : Bytes) (more : List SendOp),
    (∀ op ∈ ops, op.2 = 0) →
    messagesOf acc (ops ++ (last, 1) :: more) = (acc ++ (ops.map Prod.fst).flatten ++ last) :: messagesOf [] more
  | [], acc, last, more, _ => by simp [messagesOf]
  | (d, fl) :: rest, acc, last, more, hz => by
    have h0 : fl = 0 := hz (d, fl) (List.mem_cons_self ..)
    subst h0
    simp only [List.cons_append, messagesOf, List.map_cons, List.flatten_cons]
    rw [messagesOf_partials rest (acc ++ d) last more (fun op hop => hz op (List.mem_cons_of_mem _ hop))]
    simp [List.append_assoc]

theorem sendBuffered_spec {ws : List Bytes} {s : Stream} {b : Bytes} {e : Bool} {s' : Stream} {fs : List WireFrame}
    (h : (s.withSend b e).sendBuffered ws = .ok (s', fs)) :
    ∃ ops t, (∀ op ∈ ops, op.2 ≤ 1) ∧ s.sendAll ops = .ok (t, fs) ∧
      s' = t.withSend [] true ∧ ∀ more, messagesOf [] (ops ++ more) = ws.flatten :: messagesOf [] more := by
  obtain ⟨s1, fa, fb, hw, hend, rfl⟩ := sendBuffered_ok.mp h
  rw [startMessage_withSend] at hw
  obtain ⟨ops, t, b', hz, hsend, rfl, hcat⟩ := writeAll_spec s [] hw
  obtain ⟨-, s2, f, hsf, rfl, rfl⟩ := endMessage_ok.mp hend
  obtain ⟨u, hu, rfl⟩ := (sendFrame_withSend (s := t) (b := b') (e := true)).mp hsf
  refine ⟨ops ++ [(b', 1)], u, ?_, sendAll_append_of_ok hsend (sendAll_cons_ok.mpr ⟨u, f, [], hu, rfl, rfl⟩), rfl, ?_⟩
  · exact List.forall_mem_append.mpr ⟨fun op hop => by rw [hz op hop]; exact Nat.zero_le 1,
      List.forall_mem_singleton.mpr (Nat.le_refl 1)⟩
  · intro more
    have := messagesOf_partials ops [] b' more hz
    rw [List.nil_append, hcat, List.nil_append] at this
    rw [List.append_assoc, List.singleton_append, this]

theorem sendBufferedAll_spec : ∀ {msgs : List (List Bytes)} {s : Stream} {b : Bytes} {e : Bool} {s' : Stream}
    {fs : List WireFrame}, (s.withSend b e).sendBufferedAll msgs = .ok (s', fs) →
    ∃ ops t, (∀ op ∈ ops, op.2 ≤ 1) ∧ s.sendAll ops = .ok (t, fs) ∧ (∃ b' e', s' = t.withSend b' e') ∧
      messagesOf [] ops = msgs.map List.flatten
  | [], s, b, e, _, _, h => by cases h; exact ⟨[], s, nofun, rfl, ⟨b, e, rfl⟩, rfl⟩
  | ws :: rest, s, b, e, s', fs, h => by
    obtain ⟨s1, fa, fb, hb, hr, rfl⟩ := sendBufferedAll_cons_ok.mp h
    obtain ⟨ops1, t1, hf1, hsend1, rfl, hm1⟩ := sendBuffered_spec hb
    obtain ⟨ops2, t2, hf2, hsend2, hst, hm2⟩ := sendBufferedAll_spec hr
    exact ⟨ops1 ++ ops2, t2, List.forall_mem_append.mpr ⟨hf1, hf2⟩, sendAll_append_of_ok hsend1 hsend2, hst,
      by rw [hm1 ops2, hm2]; rfl⟩

end Cedar
