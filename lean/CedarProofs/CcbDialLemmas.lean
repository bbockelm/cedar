/-
  Helper lemmas for C20 over CedarModel/CcbDial.lean: one standard attempt (accept goroutine ‖
  reply goroutine ‖ select loop).  `Std.step` is analysed once, into the transition relation
  `Std.Next`; every invariant is then checked against the shapes of `Next`, and `Std.run_init`
  collects what holds after every schedule.  `Next` says what a step may do; the one place where
  C20 says what a step does, `Std.step_pickReply_failure` reads off the definition.
-/
import CedarModel.CcbDial
import CedarProofs.Util

namespace Cedar.Ccb

theorem readHello_eq_some (g : Greeting) (id : Id) :
    readHello g = some id ↔ g = .hello reverseConnectCmd id := by
  cases g with
  | hello cmd claim => by_cases h : cmd = reverseConnectCmd <;> simp [readHello, h]
  | _ => simp [readHello]

theorem presents_iff (g : Greeting) (id : Id) :
    g.presents id = true ↔ g = .hello reverseConnectCmd id := by
  rw [← readHello_eq_some]; exact beq_iff_eq

theorem silent_not_presents (id : Id) : Greeting.silent.presents id = false := by
  simp [Greeting.presents, readHello]

def Std.PresentsAt (s : Std) (k : Nat) : Prop := ∃ g, s.seen[k]? = some g ∧ g.presents s.id = true

structure Std.Inv (s : Std) : Prop where
  -- three fields: indices in the bookkeeping lists are connections that really arrived
  closed_lt : ∀ j ∈ s.closed, j < s.seen.length
  queued_lt : ∀ j ∈ s.queued, j < s.seen.length
  reading_lt : ∀ k, s.acc = .reading k → k < s.seen.length
  -- three fields: the connection the accept loop returned presented the id, is open, and everything
  -- before it was closed
  got_presents : ∀ k, s.acc = .got k → s.PresentsAt k
  got_open : ∀ k, s.acc = .got k → k ∉ s.closed ∧ k ∉ s.queued
  got_before : ∀ k, s.acc = .got k → ∀ j, j < k → j ∈ s.closed
  accepting_all : s.acc = .accepting → s.result = none ∧ s.queued = [] ∧ ∀ j, j < s.seen.length → j ∈ s.closed
  /-- every arrival is accounted for -/
  cover : ∀ j, j < s.seen.length → j ∈ s.closed ∨ j ∈ s.queued ∨ s.acc = .reading j ∨ s.acc = .got j
  res_got : ∀ k, s.result = some (.ok k) → s.acc = .got k
  ret_queue : s.result.isSome = true → s.queued = []
  ctx_noread : s.ctxDone = true → ∀ k, s.acc ≠ .reading k

theorem Std.inv_init (id : Id) : (Std.init id).Inv := by
  constructor <;> simp [Std.init, Std.PresentsAt]

theorem Std.PresentsAt.lt {s : Std} {k : Nat} (h : s.PresentsAt k) : k < s.seen.length := by
  obtain ⟨g, hg, -⟩ := h
  exact (List.getElem?_eq_some_iff.mp hg).1

theorem Std.PresentsAt.snoc {s t : Std} {k : Nat} (h : s.PresentsAt k) (g : Greeting) (hid : t.id = s.id)
    (hs : t.seen = s.seen ++ [g]) : t.PresentsAt k := by
  obtain ⟨g', hg, hp⟩ := h
  exact ⟨g', hs ▸ getElem?_snoc_eq_some.mpr (.inl hg), hid ▸ hp⟩

theorem Std.Inv.congr {s t : Std} (h : s.Inv) (h1 : t.id = s.id) (h2 : t.seen = s.seen) (h3 : t.acc = s.acc)
    (h4 : t.closed = s.closed) (h5 : t.queued = s.queued) (h6 : t.result = s.result)
    (h7 : t.ctxDone = true → ∀ k, s.acc ≠ .reading k) : t.Inv := by
  obtain ⟨_, _, _, _, _, _, _, _, _, _⟩ := s
  obtain ⟨_, _, _, _, _, _, _, _, _, _⟩ := t
  dsimp only at h1 h2 h3 h4 h5 h6
  subst h1 h2 h3 h4 h5 h6
  -- what is left to differ are the reply fields and `ctxDone`, and only `ctx_noread` reads one of those
  exact { h with ctx_noread := h7 }

theorem Std.Inv.close {s : Std} (h : s.Inv) (g : Greeting) :
    ({ s with seen := s.seen ++ [g], closed := s.seen.length :: s.closed } : Std).Inv where
  closed_lt j hj := lt_snoc.mpr ((List.mem_cons.mp hj).elim .inr fun h' => .inl (h.closed_lt j h'))
  queued_lt j hj := lt_snoc.mpr (.inl (h.queued_lt j hj))
  reading_lt k hk := lt_snoc.mpr (.inl (h.reading_lt k hk))
  got_presents k hk := (h.got_presents k hk).snoc g rfl rfl
  got_open k hk :=
    ⟨fun hm => (List.mem_cons.mp hm).elim (fun e => Nat.lt_irrefl _ (e ▸ (h.got_presents k hk).lt))
      (h.got_open k hk).1, (h.got_open k hk).2⟩
  got_before k hk j hj := List.mem_cons_of_mem _ (h.got_before k hk j hj)
  accepting_all ha :=
    have ⟨h1, h2, h3⟩ := h.accepting_all ha
    ⟨h1, h2, fun j hj => (lt_snoc.mp hj).elim (fun h' => List.mem_cons_of_mem _ (h3 j h')) (· ▸ List.mem_cons_self)⟩
  cover j hj := (lt_snoc.mp hj).elim (fun h' => (h.cover j h').imp_left (List.mem_cons_of_mem _))
    (fun e => .inl (e ▸ List.mem_cons_self))
  res_got := h.res_got
  ret_queue := h.ret_queue
  ctx_noread := h.ctx_noread

theorem Std.Inv.fail {s : Std} (h : s.Inv) (ha : s.acc = .accepting) : ({ s with acc := .failed } : Std).Inv :=
  have ⟨hres, hq, hall⟩ := h.accepting_all ha
  { closed_lt := h.closed_lt
    queued_lt := h.queued_lt
    reading_lt _ hk := nomatch hk
    got_presents _ hk := nomatch hk
    got_open _ hk := nomatch hk
    got_before _ hk := nomatch hk
    accepting_all hk := nomatch hk
    cover j hj := .inl (hall j hj)
    res_got _ hk := nomatch hres.symm.trans hk
    ret_queue _ := hq
    ctx_noread _ _ hk := nomatch hk }

theorem Std.Inv.read {s : Std} (h : s.Inv) (g : Greeting) (ha : s.acc = .accepting) (hc : s.ctxDone = false) :
    ({ s with seen := s.seen ++ [g], acc := .reading s.seen.length } : Std).Inv :=
  have ⟨hres, _, hall⟩ := h.accepting_all ha
  { closed_lt j hj := lt_snoc.mpr (.inl (h.closed_lt j hj))
    queued_lt j hj := lt_snoc.mpr (.inl (h.queued_lt j hj))
    reading_lt k hk := by cases hk; exact lt_snoc.mpr (.inr rfl)
    got_presents _ hk := nomatch hk
    got_open _ hk := nomatch hk
    got_before _ hk := nomatch hk
    accepting_all hk := nomatch hk
    cover j hj := (lt_snoc.mp hj).elim (fun h' => .inl (hall j h')) (fun e => .inr (.inr (.inl (e ▸ rfl))))
    res_got _ hk := nomatch hres.symm.trans hk
    ret_queue hr := nomatch hres ▸ hr
    ctx_noread hcd := nomatch hc.symm.trans hcd }

theorem Std.Inv.got {s : Std} (h : s.Inv) (g : Greeting) (ha : s.acc = .accepting) (hp : g.presents s.id = true) :
    ({ s with seen := s.seen ++ [g], acc := .got s.seen.length } : Std).Inv :=
  have ⟨hres, hq, hall⟩ := h.accepting_all ha
  { closed_lt j hj := lt_snoc.mpr (.inl (h.closed_lt j hj))
    queued_lt j hj := lt_snoc.mpr (.inl (h.queued_lt j hj))
    reading_lt _ hk := nomatch hk
    got_presents k hk := by cases hk; exact ⟨g, List.getElem?_concat_length, hp⟩
    got_open k hk := by
      cases hk
      exact ⟨fun hm => Nat.lt_irrefl _ (h.closed_lt _ hm), fun hm => nomatch hq ▸ hm⟩
    got_before k hk j hj := by cases hk; exact hall j hj
    accepting_all hk := nomatch hk
    cover j hj := (lt_snoc.mp hj).elim (fun h' => .inl (hall j h')) (fun e => .inr (.inr (.inr (e ▸ rfl))))
    res_got _ hk := nomatch hres.symm.trans hk
    ret_queue hr := nomatch hres ▸ hr
    ctx_noread _ _ hk := nomatch hk }

theorem Std.Inv.queue {s : Std} (h : s.Inv) (g : Greeting) (ha : s.acc ≠ .accepting) (hn : s.result = none) :
    ({ s with seen := s.seen ++ [g], queued := s.seen.length :: s.queued } : Std).Inv where
  closed_lt j hj := lt_snoc.mpr (.inl (h.closed_lt j hj))
  queued_lt j hj := lt_snoc.mpr ((List.mem_cons.mp hj).elim .inr fun h' => .inl (h.queued_lt j h'))
  reading_lt k hk := lt_snoc.mpr (.inl (h.reading_lt k hk))
  got_presents k hk := (h.got_presents k hk).snoc g rfl rfl
  got_open k hk :=
    ⟨(h.got_open k hk).1, fun hm => (List.mem_cons.mp hm).elim
      (fun e => Nat.lt_irrefl _ (e ▸ (h.got_presents k hk).lt)) (h.got_open k hk).2⟩
  got_before := h.got_before
  accepting_all hk := absurd hk ha
  cover j hj := (lt_snoc.mp hj).elim
    (fun h' => (h.cover j h').imp_right (.imp_left (List.mem_cons_of_mem _)))
    (fun e => .inr (.inl (e ▸ List.mem_cons_self)))
  res_got := h.res_got
  ret_queue hr := nomatch hn ▸ hr
  ctx_noread := h.ctx_noread

theorem Std.Inv.interrupt {s : Std} (h : s.Inv) {k : Nat} (hk : s.acc = .reading k) :
    ({ s with acc := .failed, closed := k :: s.closed } : Std).Inv where
  closed_lt j hj := (List.mem_cons.mp hj).elim (· ▸ h.reading_lt k hk) (h.closed_lt j)
  queued_lt := h.queued_lt
  reading_lt _ hk' := nomatch hk'
  got_presents _ hk' := nomatch hk'
  got_open _ hk' := nomatch hk'
  got_before _ hk' := nomatch hk'
  accepting_all hk' := nomatch hk'
  cover j hj := (h.cover j hj).elim (fun hc => .inl (List.mem_cons_of_mem _ hc)) fun hc => hc.elim (.inr ∘ .inl) fun hc =>
    hc.elim (fun hr => .inl (Acc.reading.inj (hk.symm.trans hr) ▸ List.mem_cons_self)) (fun hg => nomatch hk.symm.trans hg)
  res_got k' hk' := nomatch hk.symm.trans (h.res_got k' hk')
  ret_queue := h.ret_queue
  ctx_noread _ _ hk' := nomatch hk'

/-- `return` of dialStandard, seen from a state whose accept loop is not sitting in Accept -/
theorem Std.Inv.flush {s : Std} (h : s.Inv) (r : Except AErr Nat) (ha : s.acc ≠ .accepting)
    (hr : ∀ k, r = .ok k → s.acc = .got k) :
    ({ s with result := some r, closed := s.queued ++ s.closed, queued := [] } : Std).Inv where
  closed_lt j hj := (List.mem_append.mp hj).elim (h.queued_lt j) (h.closed_lt j)
  queued_lt _ hj := nomatch hj
  reading_lt := h.reading_lt
  got_presents := h.got_presents
  got_open k hk := ⟨fun hm => (List.mem_append.mp hm).elim (h.got_open k hk).2 (h.got_open k hk).1, nofun⟩
  got_before k hk j hj := List.mem_append_right _ (h.got_before k hk j hj)
  accepting_all hk := absurd hk ha
  cover j hj := (h.cover j hj).elim (fun hc => .inl (List.mem_append_right _ hc)) fun hc =>
    hc.elim (fun hq => .inl (List.mem_append_left _ hq)) (.inr ∘ .inr)
  res_got k hk := hr k (Option.some.inj hk)
  ret_queue _ := rfl
  ctx_noread := h.ctx_noread

theorem Std.Inv.ret {s : Std} (h : s.Inv) (r : Except AErr Nat) (hr : ∀ k, r = .ok k → s.acc = .got k) :
    (s.ret r).Inv := by
  by_cases ha : s.acc = .accepting
  · have := (h.fail ha).flush r nofun fun k hk => nomatch ha.symm.trans (hr k hk)
    simpa [Std.ret, ha] using this
  · have := h.flush r ha hr
    simpa [Std.ret, ha] using this

/-- The graph of `Std.step`, flattened: each constructor is one way a step changes the state, as an
    explicit record update, with the guards under which `Std.step` takes it as hypotheses.  The event
    is recorded only where a consumer needs it (`reply`, for `Next.failure`); every other constructor
    is stated for any event, so `Next` over-approximates the graph. -/
inductive Std.Next (s : Std) : Ev → Std → Prop
  | same {e} : Next s e s
  | close {e} (g : Greeting) : Next s e { s with seen := s.seen ++ [g], closed := s.seen.length :: s.closed }
  /-- an arrival while the context is done: closed, and the accept loop returns -/
  | closeFail {e} (g : Greeting) (ha : s.acc = .accepting) :
      Next s e { s with seen := s.seen ++ [g], closed := s.seen.length :: s.closed, acc := .failed }
  | read {e} (ha : s.acc = .accepting) (hc : s.ctxDone = false) :
      Next s e { s with seen := s.seen ++ [.silent], acc := .reading s.seen.length }
  | got {e} (g : Greeting) (ha : s.acc = .accepting) (hp : g.presents s.id = true) :
      Next s e { s with seen := s.seen ++ [g], acc := .got s.seen.length }
  | queue {e} (g : Greeting) (ha : s.acc ≠ .accepting) (hn : s.result = none) :
      Next s e { s with seen := s.seen ++ [g], queued := s.seen.length :: s.queued }
  /-- the context ends: a blocked greeting read is interrupted (`h1`), and a reply goroutine that
      has not read yet reports the context's error (`h2`) -/
  | cancel {e} {acc' : Acc} {closed' : List Nat} {rr : Bool} {rc : Option Reply}
      (h1 : (∃ k, s.acc = .reading k ∧ acc' = .failed ∧ closed' = k :: s.closed) ∨
            ((∀ k, s.acc ≠ .reading k) ∧ acc' = s.acc ∧ closed' = s.closed))
      (h2 : (rr = s.replyRead ∧ rc = s.replyCh) ∨ (s.replyRead = false ∧ rr = true ∧ rc = some .ctxErr)) :
      Next s e { s with ctxDone := true, acc := acc', closed := closed', replyRead := rr, replyCh := rc }
  | reply (r : Reply) (hr : s.replyRead = false) :
      Next s (.reply r) { s with replyRead := true, replyCh := some r }
  | ret {e} {r : Except AErr Nat} (hn : s.result = none) (hk : ∀ k, r = .ok k → s.acc = .got k)
      (hm : ∀ m, r = .error (.brokerFailure m) → s.replyCh = some (.failure m)) :
      Next s e (s.ret r)
  | replyOk {e} (ho : s.replyOn = true) (hc : s.replyCh = some .success) :
      Next s e { s with replyOn := false, replyCh := none }

theorem Std.step_next (s : Std) (e : Ev) : Std.Next s e (s.step e) := by
  unfold Std.step
  split
  next r hres =>
    cases e with
    | arrive g => exact .close g
    | cancel =>
      dsimp only
      split
      next k hk => exact .cancel (.inl ⟨k, hk, rfl, rfl⟩) (.inl ⟨rfl, rfl⟩)
      next hk => exact .cancel (.inr ⟨fun k h => hk k h, rfl, rfl⟩) (.inl ⟨rfl, rfl⟩)
    | _ => exact .same
  next hres =>
    cases e with
    | arrive g =>
      dsimp only
      split
      next ha =>
        unfold Std.accept
        split
        next => exact .closeFail g ha
        next hc =>
          split
          next => exact .read ha (Bool.eq_false_iff.mpr hc)
          next =>
            split
            next hp => exact .got g ha hp
            next => exact .close g
      next ha => exact .queue g ha hres
    | reply r =>
      dsimp only
      split
      next => exact .same
      next hr => exact .reply r (Bool.eq_false_iff.mpr hr)
    | cancel =>
      dsimp only
      split
      next hr =>
        split
        next k hk => exact .cancel (.inl ⟨k, hk, rfl, rfl⟩) (.inl ⟨rfl, rfl⟩)
        next hk => exact .cancel (.inr ⟨fun k h => hk k h, rfl, rfl⟩) (.inl ⟨rfl, rfl⟩)
      next hr =>
        split
        next k hk => exact .cancel (.inl ⟨k, hk, rfl, rfl⟩) (.inr ⟨Bool.eq_false_iff.mpr hr, rfl, rfl⟩)
        next hk =>
          exact .cancel (.inr ⟨fun k h => hk k h, rfl, rfl⟩) (.inr ⟨Bool.eq_false_iff.mpr hr, rfl, rfl⟩)
    | pickAccept =>
      dsimp only
      split
      next k hk => exact .ret hres (fun _ h => by cases h; exact hk) nofun
      next => exact .ret hres nofun nofun
      next => exact .same
    | pickReply =>
      dsimp only
      split
      next ho =>
        split
        next hc => exact .replyOk ho hc
        next m hc => exact .ret hres nofun (fun _ h => by cases h; exact hc)
        next => exact .ret hres nofun nofun
        next => exact .ret hres nofun nofun
        next => exact .same
      next => exact .same
    | pickCtx =>
      dsimp only
      split
      · exact .ret hres nofun nofun
      · exact .same
    | brokerFail =>
      dsimp only
      split
      · exact .ret hres nofun nofun
      · exact .same

theorem Std.step_pickReply_failure {s : Std} {m : String} (hres : s.result = none) (hon : s.replyOn = true)
    (hrep : s.replyCh = some (.failure m)) : s.step .pickReply = s.ret (.error (.brokerFailure m)) := by
  unfold Std.step
  rw [hres]
  dsimp only
  rw [if_pos hon, hrep]

theorem Std.Next.inv {s t : Std} {e : Ev} (h : Std.Next s e t) (hi : s.Inv) : t.Inv := by
  cases h with
  | same => exact hi
  | close g => exact hi.close g
  | closeFail g ha => exact (hi.close g).fail ha
  | read ha hc => exact hi.read .silent ha hc
  | got g ha hp => exact hi.got g ha hp
  | queue g ha hn => exact hi.queue g ha hn
  | cancel h1 h2 =>
    rcases h1 with ⟨k, hk, rfl, rfl⟩ | ⟨hn, rfl, rfl⟩
    · exact (hi.interrupt hk).congr rfl rfl rfl rfl rfl rfl fun _ _ => nofun
    · exact hi.congr rfl rfl rfl rfl rfl rfl fun _ => hn
  | reply r hr => exact hi.congr rfl rfl rfl rfl rfl rfl hi.ctx_noread
  | ret hn hk => exact hi.ret _ hk
  | replyOk ho hc => exact hi.congr rfl rfl rfl rfl rfl rfl hi.ctx_noread

theorem Std.Next.id_eq {s t : Std} {e : Ev} (h : Std.Next s e t) : t.id = s.id := by
  cases h <;> rfl

theorem Std.Next.result_stable {s t : Std} {e : Ev} (h : Std.Next s e t) {r : Except AErr Nat}
    (hr : s.result = some r) : t.result = some r := by
  cases h with
  | ret hn => rw [hn] at hr; cases hr
  | _ => exact hr

theorem Std.Next.failure {s t : Std} {e : Ev} (h : Std.Next s e t) (m : String)
    (ht : t.replyCh = some (.failure m) ∨ t.result = some (.error (.brokerFailure m))) :
    (s.replyCh = some (.failure m) ∨ s.result = some (.error (.brokerFailure m))) ∨ e = .reply (.failure m) := by
  cases h with
  | cancel _ h2 =>
    rcases h2 with ⟨rfl, rfl⟩ | ⟨-, rfl, rfl⟩
    · exact .inl ht
    · exact .inl (ht.imp_left nofun)
  | reply r hr =>
    rcases ht with ht | ht
    · cases ht; exact .inr rfl
    · exact .inl (.inr ht)
  | ret hn hk hm =>
    rcases ht with ht | ht
    · exact .inl (.inl ht)
    · exact .inl (.inl (hm m (Option.some.inj ht)))
  | replyOk ho hc => exact .inl (ht.imp_left nofun)
  | _ => exact .inl ht

/-- while a reply is waiting in replyCh the select still listens on it (`on_of_some`, what C20 uses); the
    other two fields are what makes this inductive -/
structure Std.RInv (s : Std) : Prop where
  on_of_some : s.replyCh.isSome = true → s.replyOn = true
  read_of_some : s.replyCh.isSome = true → s.replyRead = true
  read_of_off : s.replyOn = false → s.replyRead = true

theorem Std.Next.rinv {s t : Std} {e : Ev} (h : Std.Next s e t) (hi : s.RInv) : t.RInv := by
  obtain ⟨h1, h2, h3⟩ := hi
  -- the reply goroutine writes only while the select still listens
  have hon : s.replyRead = false → s.replyOn = true := fun hr =>
    Bool.of_not_eq_false fun ho => nomatch (h3 ho).symm.trans hr
  cases h with
  | cancel _ h2' =>
    rcases h2' with ⟨rfl, rfl⟩ | ⟨hr, rfl, rfl⟩
    · exact ⟨h1, h2, h3⟩
    · exact ⟨fun _ => hon hr, fun _ => rfl, fun _ => rfl⟩
  | reply r hr => exact ⟨fun _ => hon hr, fun _ => rfl, fun _ => rfl⟩
  | replyOk ho hc => exact ⟨nofun, nofun, fun _ => h2 (by rw [hc]; rfl)⟩
  | _ => exact ⟨h1, h2, h3⟩

theorem Std.run_init (id : Id) (evs : List Ev) :
    ((Std.init id).run evs).Inv ∧ ((Std.init id).run evs).RInv ∧ ((Std.init id).run evs).id = id ∧
    ∀ m, (((Std.init id).run evs).replyCh = some (.failure m) ∨
        ((Std.init id).run evs).result = some (.error (.brokerFailure m))) → Ev.reply (.failure m) ∈ evs :=
  List.foldlRecOn evs Std.step
    (motive := fun s => s.Inv ∧ s.RInv ∧ s.id = id ∧
      ∀ m, (s.replyCh = some (.failure m) ∨ s.result = some (.error (.brokerFailure m))) → Ev.reply (.failure m) ∈ evs)
    ⟨Std.inv_init id, ⟨nofun, nofun, nofun⟩, rfl, fun _ h => h.elim nofun nofun⟩
    fun s ⟨h1, h2, h3, h4⟩ e he =>
      have n := s.step_next e
      ⟨n.inv h1, n.rinv h2, n.id_eq.trans h3, fun m hm => (n.failure m hm).elim (h4 m) (· ▸ he)⟩

theorem Std.returned_matches {s : Std} (h : s.Inv) {k : Nat} (hr : s.result = some (.ok k)) :
    s.seen[k]? = some (.hello reverseConnectCmd s.id) ∧ k ∉ s.closed ∧ ∀ j, j < k → j ∈ s.closed := by
  have hg := h.res_got k hr
  obtain ⟨g, hgk, hp⟩ := h.got_presents k hg
  rw [presents_iff] at hp
  subst hp
  exact ⟨hgk, (h.got_open k hg).1, h.got_before k hg⟩

theorem Std.rogues_closed {s : Std} (h : s.Inv) (hr : s.result.isSome = true) (hc : s.ctxDone = true)
    {j : Nat} {g : Greeting} (hj : s.seen[j]? = some g) (hg : g.presents s.id = false) : j ∈ s.closed := by
  rcases h.cover j (List.getElem?_eq_some_iff.mp hj).1 with hx | hx | hx | hx
  · exact hx
  · rw [h.ret_queue hr] at hx; cases hx
  · exact absurd hx (h.ctx_noread hc j)
  · obtain ⟨g', hg', hp⟩ := h.got_presents j hx
    rw [hj] at hg'; cases hg'
    rw [hg] at hp; cases hp

end Cedar.Ccb
