/-
  For C08, typed layer: the skipping primitives against the reading primitives.
  `discard n` is `GetBytes n` without the bytes, the plaintext skips are the plaintext get without the
  string; hence `SkipString` and `skipStringIs` agree with `GetString` in both modes (`Agree`).
-/
import CedarModel.ClassAdWire
import CedarProofs.Agree
import CedarProofs.CodecLemmas

namespace Cedar

-- instance search for `LawfulBEq UInt8` / `ReflBEq UInt8` ends at these two, but only after every order class of
-- `Std` has failed; tried first, each `==` lemma on bytes below finds its instance at once
attribute [local instance 1100] instLawfulBEq LawfulBEq.toReflBEq

theorem discardAux_eq : ∀ (fuel n : Nat) (d : Dec), n ≤ fuel →
    discardAux fuel d n = (d.ensure n).map fun d1 => { d1 with buf := d1.buf.drop n } := by
  intro fuel
  induction fuel with
  | zero => intro n d hn; cases Nat.le_zero.mp hn; rw [ensure_of_le d 0 (Nat.zero_le _)]; rfl
  | succ fuel ih =>
    intro n d hn
    unfold discardAux
    split
    · subst n; rw [ensure_of_le d 0 (Nat.zero_le _)]; rfl
    · rw [ensure_ensure 1 n (by omega)]
      cases h1 : d.ensure 1 with
      | error e => rfl
      | ok d1 =>
        have hk := ensure_ok_len d d1 1 h1
        show discardAux fuel _ _ = (d1.ensure n).map _
        by_cases hkn : n ≤ d1.buf.length
        · -- everything needed is buffered
          rw [Nat.min_eq_right hkn, Nat.sub_self, ih _ _ (Nat.zero_le _), ensure_of_le _ 0 (Nat.zero_le _), ensure_of_le d1 n hkn]
          simp [Except.map]
        · -- the buffer is used up, the rest comes from later frames
          replace hkn := Nat.le_of_not_le hkn
          have := ensure_append d1.buf (n - d1.buf.length) { d1 with buf := [] }
          rw [List.append_nil, Nat.add_sub_of_le hkn] at this
          rw [Nat.min_eq_left hkn, ih _ _ (by omega), List.drop_of_length_le hkn, this]
          cases ({ d1 with buf := [] } : Dec).ensure (n - d1.buf.length) with
          | error e => rfl
          | ok d2 => simp [Except.map, List.drop_append, List.drop_of_length_le hkn]

theorem discard_eq (d : Dec) (n : Int) : d.discard n = (d.getBytes n).map (·.2) := by
  rw [getBytes_eq]
  unfold Dec.discard
  split
  · rw [Int.toNat_of_nonpos ‹_›, ensure_of_le d 0 (Nat.zero_le _)]; rfl
  · rw [discardAux_eq _ _ _ (Nat.le_refl _)]; cases d.ensure n.toNat <;> rfl

theorem skipCStr_eq : ∀ (fuel : Nat) (d : Dec), skipCStr fuel d = (getCStr fuel d []).map (·.2) := by
  intro fuel
  induction fuel with
  | zero => intro d; rfl
  | succ fuel ih =>
    intro d
    unfold skipCStr getCStr
    cases d.ensure 1 with
    | error e => cases e <;> rfl
    | ok d1 =>
      dsimp only
      cases d1.buf with
      | nil => rfl
      | cons c rest =>
        dsimp only
        split
        · rfl
        · rw [ih, getCStr_acc _ _ [c]]; cases getCStr fuel _ [] <;> rfl

/-- the Go loop variables of `skipStringIs`: `matched` says that what was read so far is `want.take idx`,
    so the verdict is whether the rest of the string is `want.drop idx` -/
theorem skipCStrIs_eq (want : Bytes) : ∀ (fuel : Nat) (d : Dec) (matched : Bool) (idx : Nat),
    (matched = true → idx ≤ want.length) →
    skipCStrIs want fuel d matched idx = (getCStr fuel d []).map fun p => (matched && p.1 == want.drop idx, p.2) := by
  have fin : ∀ (matched : Bool) (idx : Nat), (matched = true → idx ≤ want.length) →
      (matched && idx == want.length) = (matched && ([] : Bytes) == want.drop idx) := by
    intro matched idx hi
    cases matched with
    | false => rfl
    | true =>
      have := hi rfl
      rw [Bool.true_and, Bool.true_and, Bool.eq_iff_iff]
      simp only [beq_iff_eq, List.nil_eq, List.drop_eq_nil_iff]
      exact ⟨fun h => Nat.le_of_eq h.symm, Nat.le_antisymm this⟩
  intro fuel
  induction fuel with
  | zero => intro d matched idx hi; rw [skipCStrIs, fin matched idx hi]; rfl
  | succ fuel ih =>
    intro d matched idx hi
    unfold skipCStrIs getCStr
    rw [fin matched idx hi]
    cases d.ensure 1 with
    | error e => cases e <;> rfl
    | ok d1 =>
      dsimp only
      cases d1.buf with
      | nil => rfl
      | cons c rest =>
        dsimp only
        by_cases hc : c = 0
        · rw [if_pos hc, if_pos hc]; rfl
        · rw [if_neg hc, if_neg hc, getCStr_acc _ _ [c]]
          split
          · rename_i hcond
            simp only [Bool.and_eq_true, decide_eq_true_eq, beq_iff_eq] at hcond
            obtain ⟨⟨hm, hlt⟩, hget⟩ := hcond
            rw [ih _ true (idx + 1) (fun _ => hlt), hm, List.drop_eq_getElem_cons hlt]
            rw [List.getElem?_eq_getElem hlt] at hget
            cases getCStr fuel _ [] with
            | error e => rfl
            | ok p => simp [Except.map, Option.some.inj hget]
          · rename_i hcond
            rw [ih _ false idx (fun h => nomatch h)]
            cases getCStr fuel _ [] with
            | error e => rfl
            | ok p =>
              simp only [Except.map, Bool.false_and]
              congr 2
              cases matched with
              | false => rfl
              | true =>
                rw [Bool.true_and]
                refine (beq_eq_false_iff_ne.mpr fun h => ?_).symm
                by_cases hlt : idx < want.length
                · rw [List.drop_eq_getElem_cons hlt] at h
                  exact hcond (by simp [hlt, (List.cons.inj h).1])
                · rw [List.drop_of_length_le (Nat.le_of_not_lt hlt)] at h; cases h

/-- folds the copy of `valueOfData` that `Dec.getString` carries inline -/
theorem getString_enc (d : Dec) : d.getString true =
    d.getInt32 >>= fun p =>
      if p.1 < 0 then .error .malformed else (p.2.getBytes p.1).map fun q => (valueOfData q.1, q.2) := by
  unfold Dec.getString
  rw [if_pos rfl]
  cases d.getInt32 with
  | error e => rfl
  | ok p =>
    obtain ⟨len, d1⟩ := p
    show (if len < 0 then _ else _) = if len < 0 then _ else _
    by_cases h : len < 0
    · rw [if_pos h, if_pos h]
    · rw [if_neg h, if_neg h, getBytes_eq]
      cases d1.ensure len.toNat with
      | error e => rfl
      | ok d2 =>
        dsimp only [Except.map]
        unfold valueOfData
        cases d2.buf.take len.toNat with
        | nil => rfl
        | cons c t => dsimp only; split <;> rfl

theorem skipString_agree (enc : Bool) (d : Dec) : Agree Prod.snd (d.getString enc) (d.skipString enc) := by
  cases enc with
  | false =>
    have : d.skipString false = skipCStr (d.total + 1) d := if_neg (by decide)
    rw [this, getString_plain, skipCStr_eq]; exact .of_eq rfl
  | true =>
    have : d.skipString true = d.getInt32 >>= fun p => p.2.discard p.1 := by
      unfold Dec.skipString; rw [if_pos rfl]; cases d.getInt32 <;> rfl
    rw [this, getString_enc]
    refine .bind_same fun p => ?_
    split
    · exact .malformed rfl   -- a negative length: the skipping side does nothing, and does not fail
    · rw [discard_eq]; exact .of_eq (by cases p.2.getBytes p.1 <;> rfl)

/-- why `skipStringIs` may discard without looking when the length is neither `want.length` nor one more -/
theorem valueOfData_ne (data want : Bytes) (hw : want ≠ [])
    (hl : ¬ ((data.length : Int) = want.length ∨ (data.length : Int) = want.length + 1)) :
    (valueOfData data == want) = false := by
  refine beq_eq_false_iff_ne.mpr fun heq => ?_
  unfold valueOfData at heq
  cases data with
  | nil => exact hw heq.symm
  | cons c t =>
    dsimp only at heq
    split at heq
    · exact hw heq.symm
    · have := length_stripTrailingNul (c :: t)
      rw [heq] at this
      exact hl (by omega)

theorem skipStringIs_agree (enc : Bool) (want : Bytes) (hw : want ≠ []) (d : Dec) :
    Agree (fun p => (p.1 == want, p.2)) (d.getString enc) (d.skipStringIs enc want) := by
  cases enc with
  | false =>
    have : d.skipStringIs false want = skipCStrIs want (d.total + 1) d true 0 := if_neg (by decide)
    rw [this, getString_plain, skipCStrIs_eq want _ d true 0 (fun _ => Nat.zero_le _)]
    exact .of_eq rfl
  | true =>
    have : d.skipStringIs true want = d.getInt32 >>= fun p =>
        if p.1 = (want.length : Int) ∨ p.1 = (want.length : Int) + 1 then
          (p.2.getBytes p.1).map fun q => (valueOfData q.1 == want, q.2)
        else (p.2.discard p.1).map fun d2 => (false, d2) := by
      unfold Dec.skipStringIs; rw [if_pos rfl]
      cases d.getInt32 with
      | error e => rfl
      | ok p =>
        show (if _ then _ else _) = if _ then _ else _
        split
        · cases p.2.getBytes p.1 <;> rfl
        · cases p.2.discard p.1 <;> rfl
    rw [this, getString_enc]
    refine .bind_same fun p => ?_
    split
    · exact .malformed rfl
    · split
      · exact .of_eq (by cases p.2.getBytes p.1 <;> rfl)
      · rename_i hlw
        rw [discard_eq]
        cases hg : p.2.getBytes p.1 with
        | error e => exact .of_eq rfl
        | ok q =>
          refine .of_eq (congrArg Except.ok (Prod.ext ?_ rfl))
          have hp : (q.1.length : Int) = p.1 := getBytes_length _ _ _ _ hg ▸ Int.toNat_of_nonneg (Int.not_lt.mp ‹_›)
          exact (valueOfData_ne _ want hw (hp ▸ hlw)).symm

end Cedar
