/-
  Typed layer, strings and value sequences against the reference encoding `Spec.enc`: the encoder's
  payload bytes are the reference encoding, and from pending bytes that start with a reference
  encoding the decoder returns the value and leaves the rest.
-/
import CedarModel.CodecLarge
import CedarProofs.CodecLemmas
import CedarProofs.CodecPut

namespace Cedar

theorem takeWhile_all {α : Type} (p : α → Bool) (l : List α) (h : ∀ b ∈ l, p b = true) : l.takeWhile p = l := by
  simpa using List.takeWhile_append_of_pos (l₂ := []) h

theorem truncNul_of_nz {s : Bytes} (h : ∀ b ∈ s, b ≠ 0) : truncNul s = s :=
  takeWhile_all _ s (fun b hb => by simpa using h b hb)

theorem wireBytes_putString_truncNul (enc : Bool) (buf s : Bytes) :
    wireBytes (putString enc buf s) =
      buf ++ ((if enc = true then be64 (toU64 ((truncNul s).length + 1 : Nat)) else []) ++ (truncNul s ++ [0])) := by
  unfold putString
  rw [apply_ite wireBytes, wireBytes_seqPut' (fun b => wireBytes_putBytes enc b _), wireBytes_append]
  -- both branches are now `wireBytes head ++ data`; the heads differ in the flush condition only
  simp only [wireBytes_lenPrefix, wireBytes_flushIf, implies_true, ite_self, List.length_append,
    List.length_singleton, List.append_assoc]

theorem wireBytes_putString (enc : Bool) (buf s : Bytes) (hnz : ∀ b ∈ s, b ≠ 0) (hlen : s.length + 1 < 2^64) :
    wireBytes (putString enc buf s) = buf ++ Spec.enc enc (.str s) := by
  rw [wireBytes_putString_truncNul, truncNul_of_nz hnz, toU64_nat _ hlen, Spec.enc, List.append_assoc]

/-- the two transcriptions of `PutStringBytes` are the same function -/
theorem putStringBytesL_eq (enc : Bool) (buf s : Bytes) : putStringBytesL enc buf s = putStringBytes enc buf s := by
  unfold putStringBytesL putStringBytes putString
  simp only [List.length_append, List.length_singleton, List.append_assoc]
  by_cases h : (truncNul s).length + 1 + (if enc = true then 8 else 0) > maxFramePayload enc
  · simp only [if_pos h]
  · simp only [if_neg h]

theorem wireBytes_putStringBytes_eq_putString (enc : Bool) (buf s : Bytes) :
    wireBytes (putStringBytes enc buf s) = wireBytes (putString enc buf s) := by
  unfold putStringBytes
  rw [apply_ite wireBytes, wireBytes_seqPut' (fun b => wireBytes_putBytes enc b _),
    wireBytes_seqPut' (fun b => wireBytes_putBytes enc b _)]
  simp only [wireBytes_putString_truncNul, wireBytes_lenPrefix, wireBytes_flushIf, implies_true, ite_self,
    List.append_assoc]

theorem wireBytes_putStringBytes (enc : Bool) (buf s : Bytes) (hnz : ∀ b ∈ s, b ≠ 0) (hlen : s.length + 1 < 2^64) :
    wireBytes (putStringBytesL enc buf s) = buf ++ Spec.enc enc (.str s) := by
  rw [putStringBytesL_eq, wireBytes_putStringBytes_eq_putString, wireBytes_putString enc buf s hnz hlen]

theorem getString_spec (encMode : Bool) (d : Dec) (s rest : Bytes)
    (hnz : ∀ b ∈ s, b ≠ 0) (hlen : s.length + 1 < 2^31) (hfirst : s.head? ≠ some binNullChar)
    (hp : d.pending = some (Spec.enc encMode (.str s) ++ rest)) :
    ∃ d', d.getString encMode = .ok (s, d') ∧ d'.pending = some rest := by
  cases encMode with
  | false =>
    simp only [Spec.enc, Bool.false_eq_true, if_false, List.nil_append, List.append_assoc, List.singleton_append] at hp
    rw [getString_plain]
    exact getCStr_spec s _ d [] rest hnz (by have := pending_le_total d _ hp; simp at this; omega) hp
  | true =>
    simp only [Spec.enc, if_true, List.append_assoc] at hp
    rw [← toU64_nat (s.length + 1) (by omega)] at hp
    obtain ⟨d1, hok, hp1⟩ := getInt_be64_toU64 d _ _ (by omega) (by omega) hp
    rw [← List.append_assoc] at hp1
    obtain ⟨d2, hok2, ht, hp2⟩ := ensure_take d1 (s.length + 1) _ hp1 (by simp)
    rw [List.take_left' (by simp)] at ht
    rw [List.drop_left' (by simp)] at hp2
    refine ⟨_, ?_, hp2⟩
    simp only [Dec.getString, Dec.getInt32, if_true, hok, toI32_small _ hlen, Int.toNat_natCast, hok2, ht,
      show ¬ (((s.length + 1 : Nat) : Int) < 0) by omega, if_false]
    exact encStrValue_snoc (fun v => Except.ok (v, _)) hfirst

/-- What the round trip is claimed for: an `int64`; any byte; a string that is NUL-free (`PutString`
    stops at the first NUL), whose length with the terminator fits the `int32` prefix of encrypted mode, and
    that does not start with `BinNullChar` — `GetString` in encrypted mode takes that first byte for the
    encoding of a null string and returns the empty string. -/
def Val.wf : Val → Prop
  | .int v => -(2^63 : Int) ≤ v ∧ v < (2^63 : Int)
  | .char _ => True
  | .str s => (∀ b ∈ s, b ≠ 0) ∧ s.length + 1 < 2^31 ∧ s.head? ≠ some binNullChar

theorem wireBytes_putVal (enc : Bool) (buf : Bytes) (v : Val) (hv : v.wf) :
    wireBytes (putVal enc buf v) = buf ++ Spec.enc enc v := by
  cases v with
  | int v => exact wireBytes_putInt buf v
  | char c => exact wireBytes_putChar buf c
  | str s => exact wireBytes_putString enc buf s hv.1 (by have := hv.2.1; omega)

theorem Spec.encAll_cons (enc : Bool) (v : Val) (vs : List Val) :
    Spec.encAll enc (v :: vs) = Spec.enc enc v ++ Spec.encAll enc vs := by
  simp [Spec.encAll]

theorem Spec.encAll_append (enc : Bool) (a b : List Val) :
    Spec.encAll enc (a ++ b) = Spec.encAll enc a ++ Spec.encAll enc b := by
  simp [Spec.encAll]

theorem wireBytes_putAll (enc : Bool) : ∀ (vs : List Val) (buf : Bytes), (∀ v ∈ vs, v.wf) →
    wireBytes (putAll enc buf vs) = buf ++ Spec.encAll enc vs := by
  intro vs
  induction vs with
  | nil => intro buf _; simp [putAll, wireBytes, Spec.encAll]
  | cons v rest ih =>
    intro buf h
    unfold putAll
    rw [wireBytes_seqPut' (fun b => ih b (fun v hv => h v (List.mem_cons_of_mem _ hv))),
      wireBytes_putVal enc buf v (h v (List.mem_cons_self ..)), Spec.encAll_cons, List.append_assoc]

theorem getVal_spec (enc : Bool) (d : Dec) (v : Val) (rest : Bytes) (hv : v.wf)
    (hp : d.pending = some (Spec.enc enc v ++ rest)) :
    ∃ d', d.getVal enc v = .ok (v, d') ∧ d'.pending = some rest := by
  cases v with
  | int x =>
    obtain ⟨d1, hok, hp1⟩ := getInt_be64_toU64 d x rest hv.1 hv.2 hp
    exact ⟨d1, by simp [Dec.getVal, hok], hp1⟩
  | char c =>
    obtain ⟨d1, hok, hp1⟩ := getChar_cons d c rest hp
    exact ⟨d1, by simp [Dec.getVal, hok], hp1⟩
  | str s =>
    obtain ⟨d1, hok, hp1⟩ := getString_spec enc d s rest hv.1 hv.2.1 hv.2.2 hp
    exact ⟨d1, by simp [Dec.getVal, hok], hp1⟩

/-- one read per element of the list, of that element's kind (`Dec.getVal` looks at the constructor only) -/
def Dec.getAll (enc : Bool) : Dec → List Val → Except Err (List Val × Dec)
  | d, [] => .ok ([], d)
  | d, v :: rest =>
    match d.getVal enc v with
    | .error e => .error e
    | .ok (x, d1) =>
      match Dec.getAll enc d1 rest with
      | .error e => .error e
      | .ok (xs, d2) => .ok (x :: xs, d2)

theorem getAll_spec (enc : Bool) : ∀ (vs : List Val) (d : Dec) (rest : Bytes), (∀ v ∈ vs, v.wf) →
    d.pending = some (Spec.encAll enc vs ++ rest) →
    ∃ d', Dec.getAll enc d vs = .ok (vs, d') ∧ d'.pending = some rest := by
  intro vs
  induction vs with
  | nil => intro d rest _ hp; exact ⟨d, rfl, by simpa [Spec.encAll] using hp⟩
  | cons v tl ih =>
    intro d rest h hp
    rw [Spec.encAll_cons, List.append_assoc] at hp
    obtain ⟨d1, hok, hp1⟩ := getVal_spec enc d v _ (h v (List.mem_cons_self ..)) hp
    obtain ⟨d2, hok2, hp2⟩ := ih d1 rest (fun v hv => h v (List.mem_cons_of_mem _ hv)) hp1
    exact ⟨d2, by simp [Dec.getAll, hok, hok2], hp2⟩

end Cedar
