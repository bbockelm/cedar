/-
  Go's `strings` and `strconv` as CedarModel/ClaimId.lean models them: cutting at a separator,
  trimming, replacing a byte, `Fields`, and decimal integers (`ParseInt ∘ FormatInt` is the
  identity on int64). Nothing here knows about claim ids or policies; but `Int64` is a field of
  `InfoWf`, so a change to it changes statements of C16.
-/
import CedarModel.ClaimId
import CedarProofs.Util

namespace Cedar.Claim
open Cedar

-- instance search for `LawfulBEq UInt8` ends at this instance, but only after every order class of `Std` has failed;
-- tried first, `==` lemmas on bytes find it at once (the instance found is the same)
attribute [local instance 1100] instLawfulBEq

theorem splitLast_none {c : UInt8} : ∀ {s : Bytes}, c ∉ s → splitLast c s = none
  | [], _ => rfl
  | b :: bs, h => by
    simp [splitLast, splitLast_none (List.not_mem_of_not_mem_cons h), (List.ne_of_not_mem_cons h).symm]

theorem splitLast_append {c : UInt8} : ∀ (pre : Bytes) {post : Bytes}, c ∉ post →
    splitLast c (pre ++ c :: post) = some (pre, post)
  | [], post, h => by simp [splitLast, splitLast_none h]
  | b :: pre, post, h => by simp [splitLast, splitLast_append pre h]

theorem splitLast_of_some {c : UInt8} : ∀ {s p q : Bytes}, splitLast c s = some (p, q) → s = p ++ c :: q
  | b :: bs, p, q, h => by
    unfold splitLast at h
    cases hbs : splitLast c bs with
    | some pq =>
      simp only [hbs, Option.some.injEq, Prod.mk.injEq] at h
      rw [← h.1, ← h.2, List.cons_append, ← splitLast_of_some hbs]
    | none =>
      obtain ⟨hb, h⟩ := ite_then_of_ne (hbs ▸ h :) nofun
      cases h
      rw [hb, List.nil_append]

theorem splitLast_suffix {c : UInt8} {s p q : Bytes} (h : splitLast c s = some (p, q)) : q <:+ s :=
  ⟨p ++ [c], by simp [splitLast_of_some h]⟩

theorem splitFirst_append {c : UInt8} : ∀ {pre : Bytes} (post : Bytes), c ∉ pre →
    splitFirst c (pre ++ c :: post) = some (pre, post)
  | [], post, _ => by simp [splitFirst]
  | b :: pre, post, h => by
    simp [splitFirst, (List.ne_of_not_mem_cons h).symm, splitFirst_append post (List.not_mem_of_not_mem_cons h)]

theorem splitOn_append {c : UInt8} : ∀ {a : Bytes} (rest : Bytes), c ∉ a →
    splitOn c (a ++ c :: rest) = a :: splitOn c rest
  | [], rest, _ => by simp [splitOn]
  | b :: a, rest, h => by
    simp [splitOn, (List.ne_of_not_mem_cons h).symm, splitOn_append rest (List.not_mem_of_not_mem_cons h)]

theorem splitOn_nil (c : UInt8) : splitOn c [] = [[]] := rfl

theorem mem_firstOf {b c : UInt8} {s : Bytes} (h : b ∈ firstOf c s) : b ∈ s :=
  (List.takeWhile_sublist _).subset h

def Trimmed (s : Bytes) : Prop := s.head?.any isSpace = false ∧ s.getLast?.any isSpace = false

instance (s : Bytes) : Decidable (Trimmed s) := by unfold Trimmed; infer_instance

theorem trimRightBy_id {p : UInt8 → Bool} {s : Bytes} (h : s.getLast?.any p = false) : trimRightBy p s = s := by
  unfold trimRightBy
  rw [dropWhile_id (by rwa [List.head?_reverse]), List.reverse_reverse]

theorem trimSpace_id {s : Bytes} (h : Trimmed s) : trimSpace s = s := by
  unfold trimSpace trimLeftBy
  rw [dropWhile_id h.1, trimRightBy_id h.2]

theorem trimmed_of_forall {s : Bytes} (h : ∀ b ∈ s, isSpace b = false) : Trimmed s :=
  ⟨(Option.any_eq_false ..).mpr fun b hb => h b (List.mem_of_mem_head? hb),
   (Option.any_eq_false ..).mpr fun b hb => h b (List.mem_of_getLast? hb)⟩

theorem trimSpace_nil : trimSpace [] = [] := rfl

theorem mem_trimSpace {b : UInt8} {s : Bytes} (h : b ∈ trimSpace s) : b ∈ s := by
  unfold trimSpace trimRightBy trimLeftBy at h
  have h1 := (List.dropWhile_sublist _).subset (List.mem_reverse.mp h)
  exact (List.dropWhile_sublist _).subset (List.mem_reverse.mp h1)

theorem isSpace_le {b : UInt8} (h : isSpace b = true) : b.toNat ≤ 32 := by
  simp only [isSpace, Bool.or_eq_true, beq_iff_eq] at h
  rcases h with ((((rfl | rfl) | rfl) | rfl) | rfl) | rfl <;> decide

theorem mem_replace {b x y : UInt8} {s : Bytes} (h : b ∈ replace x y s) (hb : b ≠ y) : b ∈ s := by
  unfold replace at h
  obtain ⟨a, ha, e⟩ := List.mem_map.mp h
  exact (ite_else_of_ne e hb.symm).2 ▸ ha

theorem replace_id {x y : UInt8} {s : Bytes} (h : x ∉ s) : replace x y s = s := by
  unfold replace
  rw [List.map_congr_left (g := id), List.map_id]
  exact fun a ha => if_neg fun (e : a = x) => h (e ▸ ha)

theorem replace_replace {x y : UInt8} {s : Bytes} (h : y ∉ s) : replace y x (replace x y s) = s := by
  unfold replace
  rw [List.map_map, List.map_congr_left (g := id), List.map_id]
  intro a ha
  have hy : a ≠ y := fun e => h (e ▸ ha)
  by_cases hx : a = x <;> simp [hx, hy]

theorem replace_ne_nil {x y : UInt8} {s : Bytes} (h : s ≠ []) : replace x y s ≠ [] :=
  mt List.map_eq_nil_iff.mp h

theorem fieldsAux_word {sp : UInt8} (hsp : isSpace sp = true) : ∀ (w cur rest : Bytes),
    (∀ b ∈ w, isSpace b = false) → (cur ≠ [] ∨ w ≠ []) →
    fieldsAux (w ++ sp :: rest) cur = (cur.reverse ++ w) :: fieldsAux rest []
  | [], cur, rest, _, hne => by
    have hc : cur ≠ [] := hne.resolve_right (· rfl)
    simp [fieldsAux, hsp, hc]
  | b :: w, cur, rest, hw, _ => by
    have hb : isSpace b = false := hw b List.mem_cons_self
    have := fieldsAux_word hsp w (b :: cur) rest (fun x hx => hw x (List.mem_cons_of_mem _ hx)) (Or.inl (List.cons_ne_nil _ _))
    simp only [List.cons_append, fieldsAux, hb, Bool.false_eq_true, if_false]
    rw [this]
    simp

theorem isDigit_iff {b : UInt8} : isDigit b = true ↔ 48 ≤ b.toNat ∧ b.toNat ≤ 57 := by
  simp [isDigit]

theorem decValRev_digit {d : Nat} (h : d < 10) (s : Bytes) :
    decValRev (UInt8.ofNat (48 + d) :: s) = (decValRev s).map (· * 10 + d) := by
  have hn : (UInt8.ofNat (48 + d)).toNat = 48 + d :=
    UInt8.toNat_ofNat_of_lt' (Nat.lt_of_lt_of_le (Nat.add_lt_add_left h 48) (by decide))
  have hd : isDigit (UInt8.ofNat (48 + d)) = true := isDigit_iff.mpr (by omega)
  rw [decValRev, if_pos hd, hn, Nat.add_sub_cancel_left]
  cases decValRev s <;> rfl

theorem decValRev_digits : ∀ {s : Bytes} {v : Nat}, decValRev s = some v → ∀ b ∈ s, isDigit b = true
  | [], _, _ => nofun
  | a :: s, v, h => by
    unfold decValRev at h
    obtain ⟨ha, h⟩ := ite_then_of_ne h nofun
    cases hw : decValRev s with
    | none =>
      rw [hw] at h
      cases h
    | some w => exact List.forall_mem_cons.mpr ⟨ha, decValRev_digits hw⟩

theorem decValRev_revDigitsAux : ∀ (fuel n : Nat), n ≤ fuel → decValRev (revDigitsAux fuel n) = some n
  | 0, n, h => by
    obtain rfl : n = 0 := by omega
    decide
  | fuel + 1, n, h => by
    unfold revDigitsAux
    split
    · next h10 => rw [decValRev_digit h10, decValRev, Option.map_some, Nat.zero_mul, Nat.zero_add]
    · next h10 =>
      have hlt : n / 10 < n := Nat.div_lt_self (Nat.lt_of_lt_of_le (by decide) (Nat.le_of_not_lt h10)) (by decide)
      rw [decValRev_digit (Nat.mod_lt n (by decide)),
        decValRev_revDigitsAux fuel (n / 10) (Nat.le_of_lt_succ (Nat.lt_of_lt_of_le hlt h))]
      exact congrArg some (Nat.div_add_mod' n 10)

theorem decValRev_revDigits (n : Nat) : decValRev (revDigits n) = some n :=
  decValRev_revDigitsAux n n (Nat.le_refl n)

theorem fmtNat_digits (n : Nat) (b : UInt8) (h : b ∈ fmtNat n) : isDigit b = true :=
  decValRev_digits (decValRev_revDigits n) b (List.mem_reverse.mp h)

theorem fmtNat_ne_nil (n : Nat) : fmtNat n ≠ [] := by
  unfold fmtNat revDigits
  cases n with
  | zero => simp [revDigitsAux]
  | succ k => unfold revDigitsAux; split <;> simp

theorem fmtInt_ne_nil (i : Int) : fmtInt i ≠ [] := by
  unfold fmtInt
  split
  · simp
  · exact fmtNat_ne_nil _

/-- a byte range around the digits and '-': enough to exclude white space, '"', ',' and ';' -/
theorem fmtInt_bytes (i : Int) (b : UInt8) (h : b ∈ fmtInt i) : 45 ≤ b.toNat ∧ b.toNat ≤ 57 := by
  unfold fmtInt at h
  split at h
  · rcases List.mem_cons.mp h with rfl | h
    · decide
    · have := isDigit_iff.mp (fmtNat_digits _ b h); omega
  · have := isDigit_iff.mp (fmtNat_digits _ b h); omega

theorem trimmed_fmtInt (i : Int) : Trimmed (fmtInt i) :=
  trimmed_of_forall fun b hb => Bool.eq_false_iff.mpr fun hs => by
    have := isSpace_le hs
    have := fmtInt_bytes i b hb
    omega

theorem trimSpace_fmtInt (i : Int) : trimSpace (fmtInt i) = fmtInt i := trimSpace_id (trimmed_fmtInt i)

theorem parseMag_fmtNat (neg : Bool) (n : Nat) : parseMag neg (fmtNat n) =
    if neg then (if n ≤ int64Max + 1 then some (-(n : Int)) else none)
    else (if n ≤ int64Max then some (n : Int) else none) := by
  unfold parseMag
  rw [if_neg (fmtNat_ne_nil n)]
  simp only [fmtNat, List.reverse_reverse, decValRev_revDigits]

def Int64 (v : Int) : Prop := -(9223372036854775808 : Int) ≤ v ∧ v ≤ 9223372036854775807

theorem parseInt64_fmtNat (n : Nat) : parseInt64 (fmtNat n) = parseMag false (fmtNat n) := by
  unfold parseInt64
  split
  · rename_i e; exact absurd (fmtNat_digits _ 45 (e ▸ List.mem_cons_self)) (by decide)
  · rename_i e; exact absurd (fmtNat_digits _ 43 (e ▸ List.mem_cons_self)) (by decide)
  · rfl

theorem parseInt64_fmtInt {i : Int} (h : Int64 i) : parseInt64 (fmtInt i) = some i := by
  unfold Int64 at h
  unfold fmtInt
  split
  · show parseMag true (fmtNat i.natAbs) = some i
    rw [parseMag_fmtNat, if_pos rfl, if_pos (by unfold int64Max; omega)]
    congr 1; omega
  · rw [parseInt64_fmtNat, parseMag_fmtNat, if_neg Bool.false_ne_true, if_pos (by unfold int64Max; omega)]
    congr 1; omega

theorem parseMag_range {neg : Bool} {ds : Bytes} {n : Int} (h : parseMag neg ds = some n) : Int64 n := by
  unfold parseMag at h
  replace h := (ite_else_of_ne h nofun).2
  unfold Int64
  cases hv : decValRev ds.reverse with
  | none => simp [hv] at h
  | some m =>
    simp only [hv, int64Max] at h
    cases neg with
    | true =>
      obtain ⟨_, e⟩ := ite_then_of_ne (if_pos rfl ▸ h :) nofun
      cases e; omega
    | false =>
      obtain ⟨_, e⟩ := ite_then_of_ne (if_neg Bool.false_ne_true ▸ h :) nofun
      cases e; omega

theorem parseInt64_range {s : Bytes} {n : Int} (h : parseInt64 s = some n) : Int64 n := by
  unfold parseInt64 at h
  split at h <;> exact parseMag_range h

theorem joinInts_bytes : ∀ (l : List Int) (b : UInt8), b ∈ joinInts l → 44 ≤ b.toNat ∧ b.toNat ≤ 57
  | [], b, h => by simp [joinInts] at h
  | [v], b, h => by have := fmtInt_bytes v b h; omega
  | v :: w :: rest, b, h => by
    simp only [joinInts, List.mem_append, List.mem_cons] at h
    rcases h with h | rfl | h
    · have := fmtInt_bytes v b h; omega
    · decide
    · exact joinInts_bytes (w :: rest) b h

theorem joinInts_ne_nil : ∀ (l : List Int), l ≠ [] → joinInts l ≠ []
  | [], h => absurd rfl h
  | [v], _ => by simpa [joinInts] using fmtInt_ne_nil v
  | v :: w :: rest, _ => by
    have := fmtInt_ne_nil v
    simp [joinInts, this]

end Cedar.Claim
