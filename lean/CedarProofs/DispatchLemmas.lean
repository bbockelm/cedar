/-
  The three dispatch loops (`serveAuth`, `serveAuthH`, `serveAuthSw`) share one step: the gate
  `passes`, then the handler, then `afterRun`, through which alone a loop recurs. Each loop's
  equation is stated once in that form and what is proved of a loop is proved from its equation;
  how a run ends (C05) is read off the three clauses of `afterRun`. The raw path (`serveRaw`) is no
  loop and has no lemma here.
-/
import CedarModel.Dispatch

namespace Cedar.Disp
open Cedar Cedar.HS

theorem Server.satisfies_iff {s : Server} {cmd : Nat} {sess : Sess} :
    s.satisfies cmd sess = true ↔
      levelOK (s.policyFor cmd) sess.authenticated sess.encrypted = true ∧ s.authorizedFor cmd sess.user = true :=
  Bool.and_eq_true_iff

theorem Server.authorizedFor_some {s : Server} {a cmd hd u} (ha : s.authorizer = some a) (hl : s.lookup cmd = some hd) :
    s.authorizedFor cmd u = hd.perms.any fun p => a p u := by
  rw [Server.authorizedFor, ha, hl]

/-- the gate every dispatch loop applies to a command when it arrives; arguments in the order of the loops'
    `sess keep cmd rest`, not of `satisfies`' `cmd sess` -/
def Server.passes (s : Server) (sess : Sess) (cmd : Nat) : Bool :=
  match s.lookup cmd with
  | some h => !h.raw && s.satisfies cmd sess
  | none => false

theorem Server.passes_iff {s : Server} {sess : Sess} {cmd : Nat} :
    s.passes sess cmd = true ↔ ∃ h, s.lookup cmd = some h ∧ h.raw = false ∧ s.satisfies cmd sess = true := by
  unfold Server.passes
  cases s.lookup cmd <;> simp

theorem Server.passes_eq_false_iff {s : Server} {sess : Sess} {cmd : Nat} :
    s.passes sess cmd = false ↔
      s.lookup cmd = none ∨ (∃ hd, s.lookup cmd = some hd ∧ hd.raw = true) ∨ s.satisfies cmd sess = false := by
  unfold Server.passes
  rcases s.lookup cmd with _ | ⟨raw, perms⟩
  · simp
  · cases raw <;> simp

/-- the `_step` lemmas apply this by unification: past the two tests a loop's body no longer mentions
    the handler `h`, so what is left of it can be `yes`, a term outside the `match` -/
theorem gate_eq {α : Type} (s : Server) (sess : Sess) (cmd : Nat) (no yes : α) :
    (match s.lookup cmd with
      | none => no
      | some h => if h.raw then no else if !s.satisfies cmd sess then no else yes) =
    if s.passes sess cmd then yes else no := by
  unfold Server.passes
  rcases s.lookup cmd with _ | ⟨raw, perms⟩
  · rfl
  · cases raw <;> cases s.satisfies cmd sess <;> rfl

/-- what a loop emits after a handler that ran returned `r` -/
def afterRun (loop : Nat → List Nat → List Ev) : HRes → List Nat → List Ev
  | .keepOpen, _ => []
  | .keepAlive, next :: rest => loop next rest
  | _, _ => [.closed]

def HRes.ofKeep (keep : Bool) : HRes := if keep then .keepAlive else .done

theorem ran_step {gate : Bool} {loop : Nat → List Nat → List Ev} {r : HRes} {rest : List Nat} {cmd c : Nat}
    (h : Ev.ran c ∈ if gate then .ran cmd :: afterRun loop r rest else [.closed]) :
    (c = cmd ∧ gate = true) ∨ ∃ next rest', rest = next :: rest' ∧ Ev.ran c ∈ loop next rest' := by
  cases gate with
  | false => simp at h
  | true =>
    rcases List.mem_cons.mp h with h | h
    · cases h; exact .inl ⟨rfl, rfl⟩
    · unfold afterRun at h
      split at h
      · cases h
      · exact .inr ⟨_, _, rfl, h⟩
      · simp at h

theorem afterRun_congr {loop loop' : Nat → List Nat → List Ev} {rest : List Nat} (r : HRes)
    (h : ∀ next rest', rest = next :: rest' → loop next rest' = loop' next rest') :
    afterRun loop r rest = afterRun loop' r rest := by
  cases r with
  | keepAlive =>
    cases rest with
    | nil => rfl
    | cons next rest' => exact h next rest' rfl
  | _ => rfl

theorem serveAuthH_step (s : Server) (sess : Sess) (res : Nat → HRes) (cmd : Nat) (rest : List Nat) :
    s.serveAuthH sess res cmd rest =
      if s.passes sess cmd then .ran cmd :: afterRun (s.serveAuthH sess res) (res cmd) rest else [.closed] := by
  refine (Server.serveAuthH.eq_def ..).trans ((gate_eq ..).trans ?_)
  cases res cmd <;> cases rest <;> rfl

theorem serveAuthH_ne_nil (s : Server) (sess : Sess) (res : Nat → HRes) (cmd : Nat) (rest : List Nat) :
    s.serveAuthH sess res cmd rest ≠ [] := by
  rw [serveAuthH_step]
  split
  · exact List.cons_ne_nil _ _
  · exact List.cons_ne_nil _ _

theorem serveAuth_step (s : Server) (sess : Sess) (keep : Nat → Bool) (cmd : Nat) (rest : List Nat) :
    s.serveAuth sess keep cmd rest =
      if s.passes sess cmd then .ran cmd :: afterRun (s.serveAuth sess keep) (.ofKeep (keep cmd)) rest
      else [.closed] := by
  refine (Server.serveAuth.eq_def ..).trans ((gate_eq ..).trans ?_)
  cases keep cmd <;> cases rest <;> rfl

theorem serveAuthSw_step (s1 s2 : Server) (sess : Sess) (keep : Nat → Bool) (n cmd : Nat) (rest : List Nat) :
    serveAuthSw s1 s2 sess keep (n+1) cmd rest =
      if s1.passes sess cmd then .ran cmd :: afterRun (serveAuthSw s1 s2 sess keep n) (.ofKeep (keep cmd)) rest
      else [.closed] := by
  refine (serveAuthSw.eq_def ..).trans ((gate_eq ..).trans ?_)
  cases keep cmd <;> cases rest <;> rfl

/-- induction in the shape in which a dispatch loop recurs (through `afterRun`) -/
theorem rest_induction {P : Nat → List Nat → Prop}
    (step : ∀ cmd rest, (∀ next rest', rest = next :: rest' → P next rest') → P cmd rest)
    (cmd : Nat) (rest : List Nat) : P cmd rest := by
  induction rest generalizing cmd with
  | nil => exact step cmd [] nofun
  | cons next rest' ih => exact step cmd _ fun _ _ h => by cases h; exact ih _

theorem ran_serveAuthH {s : Server} {sess : Sess} {res : Nat → HRes} {c cmd : Nat} {rest : List Nat}
    (h : Ev.ran c ∈ s.serveAuthH sess res cmd rest) : s.passes sess c = true := by
  induction cmd, rest using rest_induction with
  | step cmd rest ih =>
    rw [serveAuthH_step] at h
    rcases ran_step h with ⟨rfl, hp⟩ | ⟨next, rest', hr, hm⟩
    · exact hp
    · exact ih next rest' hr hm

theorem serveAuthH_ofKeep (s : Server) (sess : Sess) (keep : Nat → Bool) (cmd : Nat) (rest : List Nat) :
    s.serveAuthH sess (fun c => .ofKeep (keep c)) cmd rest = s.serveAuth sess keep cmd rest := by
  induction cmd, rest using rest_induction with
  | step cmd rest ih => rw [serveAuthH_step, serveAuth_step, afterRun_congr _ ih]

theorem ran_serveAuth {s : Server} {sess : Sess} {keep : Nat → Bool} {c cmd : Nat} {rest : List Nat}
    (h : Ev.ran c ∈ s.serveAuth sess keep cmd rest) : s.passes sess c = true :=
  ran_serveAuthH (serveAuthH_ofKeep s sess keep cmd rest ▸ h)

end Cedar.Disp
