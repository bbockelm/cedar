/-
  Tie (T) for decision code: the hand-written `negotiateCore` (C10, C03), `levelOK` and
  `Server.satisfies` (C05) against the definitions that `tools/gen` (trans.go) translates statement
  by statement from `security.negotiateSecurity`, `server.commandLevelSatisfied` and
  `server.sessionSatisfies` on every run. The first two are equal for ALL level strings — the four
  standard ones, the empty string of an unset field, anything a peer may send: a level string
  matters only through its equality with the four constants, so both sides are finite tables over
  the classification `cls`, and the kernel compares them. The generated definitions are used
  through their values only: nothing here depends on how the translator lays out its text.
  `core_eq_gen` compares the error, `authentication` and `encryption`. The fourth translated output,
  `enact` (`negotiation.Enact`, sent as "Enact" in the response ad), is not compared: the
  handshake machines of the model do not read it and `HS.Decision` has no such field.
-/
import CedarGen.Decisions
import CedarModel.Handshake
import CedarModel.Dispatch

namespace Cedar.Tie
open CedarGen Cedar.HS

inductive Cls | req | never | pref | opt | other
  deriving DecidableEq, Repr

/-- the four level strings are literals because the generated code inlines the constants' values: if one changes in
    Go, `cls_spec` no longer rewrites the comparisons and the sweeps fail, which is wanted -/
def cls (s : String) : Cls :=
  if s = "REQUIRED" then .req else if s = "NEVER" then .never
  else if s = "PREFERRED" then .pref else if s = "OPTIONAL" then .opt else .other

theorem cls_spec (s : String) :
    (s = "REQUIRED") = (cls s = .req) ∧ (s = "NEVER") = (cls s = .never) ∧
    (s = "PREFERRED") = (cls s = .pref) ∧ (s = "OPTIONAL") = (cls s = .opt) := by
  unfold cls
  by_cases h1 : s = "REQUIRED"; · subst h1; simp
  by_cases h2 : s = "NEVER"; · subst h2; simp
  by_cases h3 : s = "PREFERRED"; · subst h3; simp
  by_cases h4 : s = "OPTIONAL"; · subst h4; simp
  simp [h1, h2, h3, h4]

/-- lets `decide` run through the quantifiers over classes in the two ties below -/
local instance {p : Cls → Prop} [DecidablePred p] : Decidable (∀ c, p c) :=
  decidable_of_iff (p .req ∧ p .never ∧ p .pref ∧ p .opt ∧ p .other)
    ⟨fun ⟨h1, h2, h3, h4, h5⟩ c => by cases c <;> assumption, fun h => ⟨h _, h _, h _, h _, h _⟩⟩

/-- `ret` numbers the error returns of the Go function in source order (the generated docstring lists
    them with their messages); a `NegErr` does not record WHICH side required. The last arm stands
    for return 6, the last the translated function has: a seventh added in Go would be read as
    `.noAuth` too. -/
def errOf : Nat → Option NegErr
  | 0 => none | 1 => some .authIncompat | 2 => some .authIncompat
  | 3 => some .encIncompat | 4 => some .encIncompat | 5 => some .noCrypto | _ => some .noAuth

/-- the generated code compares strings with `==`, the model with `=`; rewriting with this first is
    what lets `simp only` bring both to the classes of `cls` (`cls_spec`) -/
theorem beq_str (s t : String) : (s == t) = decide (s = t) := rfl

theorem core_eq_gen (sa ca se ce : String) (ha hc : Bool) :
    negotiateCore sa ca se ce ha hc =
      (let g := Decisions.negotiateSecurity sa ca se ce ha hc
       (errOf g.ret, g.authentication, g.encryption)) := by
  unfold negotiateCore decide3 Decisions.negotiateSecurity
  simp only [lvlRequired, lvlNever, lvlPreferred, security.SecurityRequired,
    security.SecurityNever, security.SecurityPreferred, beq_str, cls_spec]
  generalize cls sa = a; generalize cls ca = b; generalize cls se = c; generalize cls ce = d
  revert a b c d ha hc
  decide +kernel

open Cedar.Disp in
theorem levelOK_eq_gen (p : Policy) (authenticated encrypted : Bool) :
    levelOK (some p) authenticated encrypted =
      Decisions.commandLevelSatisfied p.auth p.enc p.integ authenticated encrypted := by
  unfold levelOK Decisions.commandLevelSatisfied
  simp only [lvlRequired, security.SecurityRequired, beq_str, cls_spec]
  generalize cls p.auth = a; generalize cls p.enc = b; generalize cls p.integ = c
  revert a b c authenticated encrypted
  decide +kernel

open Cedar.Disp in
/-- for a session that exists (`negNil = false`). `authorizedNow` is the verdict of `s.authorized`,
    which the code consults only when an Authorizer is configured. -/
theorem satisfies_eq_gen (s : Server) (cmd : Nat) (sess : Sess) (authorizedNow : Bool)
    (hA : ∀ a, s.authorizer = some a → authorizedNow = s.authorizedFor cmd sess.user) :
    s.satisfies cmd sess =
      ((Decisions.sessionSatisfies false (levelOK (s.policyFor cmd) sess.authenticated sess.encrypted)
          s.authorizer.isSome authorizedNow).ret == 0) := by
  unfold Server.satisfies Decisions.sessionSatisfies
  generalize levelOK (s.policyFor cmd) sess.authenticated sess.encrypted = l
  cases hs : s.authorizer with
  | none =>
    have : s.authorizedFor cmd sess.user = true := by unfold Server.authorizedFor; rw [hs]
    rw [this]; cases l <;> cases authorizedNow <;> rfl
  | some a =>
    rw [← hA a hs]; cases l <;> cases authorizedNow <;> rfl

theorem nil_session_refused_gen (l h a : Bool) : (Decisions.sessionSatisfies true l h a).ret = 1 := by
  cases l <;> cases h <;> cases a <;> rfl

end Cedar.Tie
