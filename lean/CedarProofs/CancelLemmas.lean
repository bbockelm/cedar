/-
  Helper lemmas for C19 over the `Cancel` model.  The first argument `gc` of `step` and `run` selects
  the code variant: whether the entry guard closes the connection (`cur = true`, the code as it is).
  One call (`step`) has three regimes — entry guard (`step_fired`, `step_guard`), bare I/O
  (`step_bare`), cancellation while the request is outstanding (`step_mid`) — decision tables of
  `step`: a case split on the inputs the definition branches on, each case closed by `simp`.
  `step_spec` sums them up: bare I/O in full; of a call that returns the context's error, what the
  three result states have in common.  An operation (`run`) is read off its last call
  (`run_last`); one that starts with calls that complete without an event (`quiet`) ends at the
  first call after them that blocks or fails (`run_quiet_stop`): the stall scenarios of C19.
-/
import CedarModel.Cancel

namespace Cedar.Cancel

theorem fire_fired (w : World) (c : CtxErr) (x : Option CtxErr) (h : w.err = some c) : fire w x = w := by
  cases x with
  | none => rfl
  | some e => simp [fire, h]

theorem fire_inert (w : World) (x : Option CtxErr) (h : w.cancellable = false ∨ x = none) : fire w x = w := by
  cases x with
  | none => rfl
  | some c => simp [fire, h.resolve_right (by simp)]

theorem step_fired (gc : Bool) (w : World) (e : StepEnv) (c : CtxErr) (h : w.err = some c) :
    step gc w e = ({ w with closed := w.closed || gc }, .ctx c) := by
  unfold step
  simp only [fire_fired w c e.pre h, h]

theorem step_guard (gc : Bool) (w : World) (e : StepEnv) (c : CtxErr)
    (hc : w.cancellable = true) (hn : w.err = none) (hp : e.pre = some c) :
    step gc w e = ({ w with err := some c, closed := w.closed || gc }, .ctx c) := by
  simp [step, fire, hc, hn, hp]

theorem step_bare (gc : Bool) (w : World) (e : StepEnv) (hn : w.err = none)
    (hq : w.cancellable = false ∨ (e.pre = none ∧ e.mid = none)) :
    step gc w e = ({ w with io := w.io + 1 }, bareStep w.closed e.peer) := by
  have h2 := fire_inert { w with io := w.io + 1 } e.mid (hq.imp_right (·.2))
  simp only [step, bareStep, effPeer, fire_inert w _ (hq.imp_right (·.1)), h2]
  simp only [hn]
  generalize (if w.closed = true then Peer.fail IoErr.closed else e.peer) = q
  cases q <;> simp

theorem step_mid (gc : Bool) (w : World) (e : StepEnv) (c : CtxErr) (hc : w.cancellable = true)
    (hn : w.err = none) (hp : e.pre = none) (hm : e.mid = some c) :
    step gc w e =
      (if w.closed = false ∧ e.peer = .stall
        then { w with err := some c, io := w.io + 1, closed := true }
        else { w with err := some c, io := w.io + 1, closing := true }, .ctx c) := by
  cases hcl : w.closed <;> cases hpe : e.peer <;> simp [step, effPeer, fire, hn, hc, hcl, hp, hm, hpe]

theorem bareStep_ne_ctx (cl : Bool) (p : Peer) (c : CtxErr) : bareStep cl p ≠ .ctx c := by
  cases cl <;> cases p <;> simp [bareStep]

theorem bareStep_blocked (cl : Bool) (p : Peer) (h : bareStep cl p = .blocked) : cl = false ∧ p = .stall := by
  cases cl <;> cases p <;> simp [bareStep] at h ⊢

theorem step_spec (gc : Bool) (w : World) (e : StepEnv) :
    (∃ c, (step gc w e).1.err = some c ∧ (step gc w e).2 = .ctx c ∧
        (gc = true → (step gc w e).1.closed = true ∨ (step gc w e).1.closing = true) ∧
        (w.closed = true → (step gc w e).1.closed = true) ∧
        (step gc w e).1.cancellable = w.cancellable ∧
        w.io ≤ (step gc w e).1.io ∧ (step gc w e).1.io ≤ w.io + 1) ∨
    ((step gc w e).1.err = none ∧ step gc w e = ({ w with io := w.io + 1 }, bareStep w.closed e.peer)) := by
  rcases Option.eq_none_or_eq_some w.err with hn | ⟨c, hn⟩
  case inr => rw [step_fired gc w e c hn]; exact .inl ⟨c, hn, rfl, by simp +contextual⟩
  rcases Bool.eq_false_or_eq_true w.cancellable with hc | hc
  case inr => rw [step_bare gc w e hn (.inl hc)]; exact .inr ⟨hn, rfl⟩
  rcases Option.eq_none_or_eq_some e.pre with hp | ⟨c, hp⟩
  case inr => rw [step_guard gc w e c hc hn hp]; exact .inl ⟨c, rfl, rfl, by simp +contextual⟩
  rcases Option.eq_none_or_eq_some e.mid with hm | ⟨c, hm⟩
  · rw [step_bare gc w e hn (.inr ⟨hp, hm⟩)]; exact .inr ⟨hn, rfl⟩
  · rw [step_mid gc w e c hc hn hp hm]
    refine .inl ⟨c, ?_⟩
    split <;> simp +contextual

theorem step_ctx_iff (gc : Bool) (w : World) (e : StepEnv) (c : CtxErr) :
    (step gc w e).2 = .ctx c ↔ (step gc w e).1.err = some c := by
  rcases step_spec gc w e with ⟨c', h1, h2, -⟩ | ⟨h1, h2⟩
  · rw [h1, h2]; simp
  · rw [h1, h2]; simp [bareStep_ne_ctx]

theorem step_blocked (gc : Bool) (w : World) (e : StepEnv) (h : (step gc w e).2 = .blocked) :
    (step gc w e).1.err = none ∧ e.peer = .stall ∧ w.closed = false ∧ (step gc w e).1.io = w.io + 1 := by
  rcases step_spec gc w e with ⟨c', -, h2, -⟩ | ⟨h1, h2⟩
  · rw [h2] at h; cases h
  · rw [h2] at h ⊢
    have := bareStep_blocked _ _ h
    exact ⟨h2 ▸ h1, this.2, this.1, rfl⟩

theorem step_closed (w : World) (e : StepEnv) (c : CtxErr) (h : (step cur w e).1.err = some c) :
    (step cur w e).1.closed = true ∨ (step cur w e).1.closing = true := by
  rcases step_spec cur w e with ⟨c', -, -, h3, -⟩ | ⟨h1, -⟩
  · exact h3 rfl
  · rw [h1] at h; cases h

/-- all steps abort on error (stream operations) -/
def allAbort (p : List (Step × StepEnv)) : Prop := ∀ x ∈ p, x.1.onErr = .abort

/-- no cancellation event in the environment -/
def silent (p : List (Step × StepEnv)) : Prop := ∀ x ∈ p, x.2.pre = none ∧ x.2.mid = none

theorem run_cons (gc : Bool) (w : World) (s : Step) (e : StepEnv) (rest : List (Step × StepEnv)) :
    run gc w ((s, e) :: rest) =
      if (step gc w e).2 = .ok ∨ ((step gc w e).2 ≠ .blocked ∧ s.onErr = .swallow)
      then run gc (step gc w e).1 rest else step gc w e := by
  rw [run]
  generalize step gc w e = x
  obtain ⟨w', r⟩ := x
  cases r <;> cases s.onErr <;> simp

/-- what every call guarantees on return, every operation does.  Nothing ties `w₁` to `w`: what is
    to be carried from the start state needs its own induction (`run_cons`, `split`). -/
theorem run_last (gc : Bool) (w : World) (p : List (Step × StepEnv)) (hp : p ≠ []) :
    ∃ w₁, ∃ x ∈ p, (run gc w p).1 = (step gc w₁ x.2).1 ∧
      ((run gc w p).2 = (step gc w₁ x.2).2 ∨ ((run gc w p).2 = .ok ∧ x.1.onErr = .swallow)) := by
  induction p generalizing w with
  | nil => exact absurd rfl hp
  | cons x rest ih =>
    obtain ⟨s, e⟩ := x
    rw [run_cons]
    split
    next h =>
      by_cases hr : rest = []
      · subst hr
        exact ⟨w, (s, e), List.mem_cons_self, rfl, h.imp (·.symm) (⟨rfl, ·.2⟩)⟩
      · obtain ⟨w₁, x, hx, h'⟩ := ih (step gc w e).1 hr
        exact ⟨w₁, x, List.mem_cons_of_mem _ hx, h'⟩
    next => exact ⟨w, (s, e), List.mem_cons_self, rfl, .inl rfl⟩

theorem run_fired (gc : Bool) (w : World) (p : List (Step × StepEnv)) (c : CtxErr) (h : w.err = some c) :
    run gc w p = ({ w with closed := w.closed || (gc && !p.isEmpty) },
      if p.any (·.1.onErr = .abort) then .ctx c else .ok) := by
  induction p generalizing w with
  | nil => simp [run]
  | cons x rest ih =>
    obtain ⟨s, e⟩ := x
    rw [run_cons, step_fired gc w e c h]
    cases hs : s.onErr with
    | abort => simp [hs]
    | swallow =>
      rw [if_pos (.inr ⟨by simp, rfl⟩), ih { w with closed := w.closed || gc } h]
      simp only [List.any_cons, List.isEmpty_cons, hs, reduceCtorEq, decide_false, Bool.false_or]
      cases w.closed <;> cases gc <;> rfl

theorem bareRun_cons (cl : Bool) (s : Step) (e : StepEnv) (rest : List (Step × StepEnv)) (n : Nat) :
    bareRun cl ((s, e) :: rest) n =
      if bareStep cl e.peer = .ok ∨ (bareStep cl e.peer ≠ .blocked ∧ s.onErr = .swallow)
      then bareRun cl rest (n + 1) else (n + 1, bareStep cl e.peer) := by
  rw [bareRun]
  have := bareStep_ne_ctx cl e.peer
  generalize bareStep cl e.peer = r at this
  cases r <;> cases s.onErr <;> simp_all

theorem run_bare (gc : Bool) (w : World) (p : List (Step × StepEnv)) (hn : w.err = none)
    (hq : w.cancellable = false ∨ silent p) :
    run gc w p = ({ w with io := (bareRun w.closed p w.io).1 }, (bareRun w.closed p w.io).2) := by
  induction p generalizing w with
  | nil => rfl
  | cons x rest ih =>
    obtain ⟨s, e⟩ := x
    rw [run_cons, bareRun_cons, step_bare gc w e hn (hq.imp_right (· _ List.mem_cons_self))]
    split
    · exact ih { w with io := w.io + 1 } hn (hq.imp_right fun h y hy => h y (List.mem_cons_of_mem _ hy))
    · rfl

theorem run_append (gc : Bool) (w : World) (a b : List (Step × StepEnv)) (h : (run gc w a).2 = .ok) :
    run gc w (a ++ b) = run gc (run gc w a).1 b := by
  induction a generalizing w with
  | nil => rfl
  | cons x rest ih =>
    obtain ⟨s, e⟩ := x
    rw [run_cons] at h
    rw [List.cons_append, run_cons, run_cons]
    split
    next hc => rw [if_pos hc] at h; exact ih _ h
    next hc => rw [if_neg hc] at h; exact absurd (.inl h) hc

theorem bareRun_quiet (a : List Step) (rest : List (Step × StepEnv)) (n : Nat) :
    bareRun false (quiet a ++ rest) n = bareRun false rest (n + a.length) := by
  induction a generalizing n with
  | nil => rfl
  | cons s t ih =>
    rw [show quiet (s :: t) ++ rest = (s, quietEnv) :: (quiet t ++ rest) from rfl, bareRun_cons,
      if_pos (.inl rfl), ih, List.length_cons, Nat.add_assoc, Nat.add_comm 1]

theorem silent_quiet (a : List Step) : silent (quiet a) :=
  List.forall_mem_map.mpr fun _ _ => ⟨rfl, rfl⟩

theorem run_quiet (gc : Bool) (w : World) (a : List Step) (hn : w.err = none) (hcl : w.closed = false) :
    run gc w (quiet a) = ({ w with io := w.io + a.length }, .ok) := by
  rw [run_bare gc w _ hn (.inr (silent_quiet a)), hcl, ← List.append_nil (quiet a), bareRun_quiet]
  rfl

theorem run_quiet_stop (gc : Bool) (w : World) (a : List Step) (s : Step) {e : StepEnv} {x : World × Ret}
    (rest : List (Step × StepEnv)) (hn : w.err = none) (hcl : w.closed = false)
    (hst : step gc { w with io := w.io + a.length } e = x)
    (hr : x.2 = .blocked ∨ (s.onErr = .abort ∧ x.2 ≠ .ok)) :
    run gc w (quiet a ++ (s, e) :: rest) = x := by
  subst hst
  rw [run_append, run_quiet gc w a hn hcl, run_cons, if_neg]
  · rcases hr with h | ⟨h1, h2⟩
    · simp [h]
    · simp [h1, h2]
  · rw [run_quiet gc w a hn hcl]

end Cedar.Cancel
