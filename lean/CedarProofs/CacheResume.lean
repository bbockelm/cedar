/-
  The three resumption machines (`serverResume`, `clientTry`, `clientById`) stated once, in terms of
  the entry they ride: each looks for `Cache.resumable`, refuses when there is none, and otherwise
  renews the entry in place (server) or acts on the server's answer (clients, `answered`).
  `resume_preserves` is the shape their cache updates share.
-/
import CedarProofs.CacheLemmas

namespace Cedar.SC

/-- what every resumption path asks of a cached entry: an AES key (F-C06-keyless,
    F-C06-client-explicit-keyless) and, where the local policy REQUIRES authentication, an
    authenticated session (F-C03-resume-required) -/
def Entry.usable (e : Entry) (ra : Bool) : Bool :=
  e.key.isSome && (e.crypto == "AES" || e.crypto == "AESGCM") && (!ra || e.authenticated)

theorem usable_iff {e : Entry} {ra : Bool} :
    e.usable ra = true ↔
      e.key.isSome = true ∧ (e.crypto = "AES" ∨ e.crypto = "AESGCM") ∧ (ra = true → e.authenticated = true) := by
  cases ra <;> simp [Entry.usable, and_assoc]

/-- `sid` comes last, unlike in the machines, for the partial application `.bind (c.resumable now ra)` of `clientTry_eq` -/
def Cache.resumable (c : Cache) (now : Nat) (ra : Bool) (sid : Str) : Option Entry :=
  (c.get sid).filter fun e => !e.expired now && e.usable ra

theorem resumable_eq_some {c : Cache} {now : Nat} {ra : Bool} {sid : Str} {e : Entry} :
    c.resumable now ra sid = some e ↔ c.get sid = some e ∧ e.expired now = false ∧ e.key.isSome = true ∧
      (e.crypto = "AES" ∨ e.crypto = "AESGCM") ∧ (ra = true → e.authenticated = true) := by
  simp [Cache.resumable, Option.filter_eq_some_iff, usable_iff]

theorem resumable_eq_none {c : Cache} {now : Nat} {ra : Bool} {sid : Str} :
    c.resumable now ra sid = none ↔ ∀ e, c.get sid = some e → e.expired now = false → e.usable ra = false := by
  simp [Cache.resumable, Option.filter_eq_none_iff]

def answered (c : Cache) (now : Nat) (e : Entry) : ServerAnswer → Cache × ClientStep
  | .authorized => (c.store (e.renew now), .resumed e.id e.key e.user e.authenticated)
  | .sidNotFound | .broken => (c.invalidate e.id, .resumeFailed e.id)
  | .other _ => (c, .resumeFailed e.id)

theorem answered_resumed {c : Cache} {now : Nat} {e : Entry} {ans : ServerAnswer} {sid : Str} {key : Option Nat}
    {user : String} {auth : Bool} (h : (answered c now e ans).2 = .resumed sid key user auth) :
    ans = .authorized ∧ sid = e.id ∧ key = e.key ∧ user = e.user ∧ auth = e.authenticated := by
  cases ans <;> simp [answered] at h
  exact ⟨rfl, h.1.symm, h.2.1.symm, h.2.2.1.symm, h.2.2.2.symm⟩

/-! The model writes the predicate out in each machine: as the conjunction of `Entry.usable` in
`serverResume` and `clientTry`, negated and distributed over its last conjunct in `clientById`. The
next two lemmas turn that text into the name. -/

theorem usable_fold (e : Entry) (ra : Bool) :
    (e.key.isSome && (e.crypto == "AES" || e.crypto == "AESGCM") && (!ra || e.authenticated)) = e.usable ra := rfl

theorem not_usable_fold (e : Entry) (ra : Bool) :
    (!(e.key.isSome && (e.crypto == "AES" || e.crypto == "AESGCM")) || (ra && !e.authenticated)) = !e.usable ra := by
  unfold Entry.usable
  cases e.key.isSome && (e.crypto == "AES" || e.crypto == "AESGCM") <;> cases ra <;> cases e.authenticated <;> rfl

theorem serverResume_eq (c : Cache) (now : Nat) (sid : Str) (w : Bool) (n : Nat) (ra : Bool) :
    serverResume c now sid w n ra =
      match c.resumable now ra sid with
      | some e => (c.store (e.renew now), if w then .authorized n else .none,
                    some ⟨e.user, e.authenticated, true, e.key⟩)
      | none => ((c.lookupNonExpired now sid).1, if w then .sidNotFound else .none, none) := by
  unfold serverResume Cache.resumable Cache.lookupNonExpired
  cases c.get sid with
  | none => rfl
  | some e =>
    cases hx : e.expired now
    · cases hu : e.usable ra <;>
        simp only [Option.filter, hx, hu, usable_fold, Bool.not_false, Bool.and_self, Bool.and_false,
          Bool.false_eq_true, if_false, if_true]
    · simp only [Option.filter, hx, Bool.not_true, Bool.false_and, Bool.false_eq_true, if_false, if_true]

theorem serverResume_some {c : Cache} {now : Nat} {sid : Str} {w : Bool} {n : Nat} {ra : Bool} {c' : Cache}
    {reply : ResumeReply} {o : ResumeOutcome} (h : serverResume c now sid w n ra = (c', reply, some o)) :
    ∃ e, c.resumable now ra sid = some e ∧ c' = c.store (e.renew now) ∧
      reply = (if w then .authorized n else .none) ∧ o = ⟨e.user, e.authenticated, true, e.key⟩ := by
  rw [serverResume_eq] at h
  split at h
  · cases h
    exact ⟨_, ‹_›, rfl, rfl, rfl⟩
  · cases h

theorem serverResume_refuses {c : Cache} {now : Nat} {ra : Bool} {sid : Str} (h : c.resumable now ra sid = none)
    (w : Bool) (n : Nat) : (serverResume c now sid w n ra).2 = (if w then .sidNotFound else .none, none) := by
  rw [serverResume_eq, h]

theorem serverResume2_miss {own : Cache} {now : Nat} {sid : Str} (h : (own.lookupNonExpired now sid).2 = none)
    (glob : Cache) (w : Bool) (n : Nat) (ra : Bool) :
    serverResume2 own glob now sid w n ra =
      ((own.lookupNonExpired now sid).1, serverResume glob now sid w n ra) := by
  unfold serverResume2
  rw [h]

theorem clientById_eq (c : Cache) (now : Nat) (sid : Str) (ans : ServerAnswer) (ra : Bool) :
    clientById c now sid ans ra =
      match c.resumable now ra sid with
      | some e => answered c now e ans
      | none => ((c.lookupNonExpired now sid).1, .resumeFailed sid) := by
  unfold clientById Cache.resumable Cache.lookupNonExpired
  cases c.get sid with
  | none => rfl
  | some e =>
    cases hx : e.expired now
    · cases hu : e.usable ra <;>
        simp only [Option.filter, hx, hu, not_usable_fold, Bool.not_false, Bool.not_true, Bool.and_self, Bool.and_false,
          Bool.false_eq_true, if_false, if_true]
      cases ans <;> rfl
    · simp only [Option.filter, hx, Bool.not_true, Bool.false_and, Bool.false_eq_true, if_false, if_true]

theorem clientTry_eq (c : Cache) (now : Nat) (tag addr cmd : Str) (ans : ServerAnswer) (ra : Bool) :
    clientTry c now tag addr cmd ans ra =
      if addr = [] then (c, .full)
      else match (c.cmdMap.lookup (cmdKey tag addr cmd)).bind (c.resumable now ra) with
        | some e => answered c now e ans
        | none => (c, .full) := by
  unfold clientTry
  refine ite_congr rfl (fun _ => rfl) fun _ => ?_
  rw [lookupByCommand_eq]
  unfold Cache.resumable
  cases c.cmdMap.lookup (cmdKey tag addr cmd) with
  | none => rfl
  | some sid =>
    dsimp only [Option.bind]
    cases c.get sid with
    | none => rfl
    | some e =>
      cases hx : e.expired now <;> cases hu : e.usable ra <;> simp [Option.filter, hx, hu, usable_fold]
      cases ans <;> rfl

theorem clientTry_resumed {c : Cache} {now : Nat} {tag addr cmd : Str} {ans : ServerAnswer} {ra : Bool}
    {sid : Str} {key : Option Nat} {user : String} {auth : Bool}
    (h : (clientTry c now tag addr cmd ans ra).2 = .resumed sid key user auth) :
    ∃ sid' e, c.cmdMap.lookup (cmdKey tag addr cmd) = some sid' ∧ c.resumable now ra sid' = some e ∧
      ans = .authorized ∧ sid = e.id ∧ key = e.key ∧ user = e.user ∧ auth = e.authenticated := by
  rw [clientTry_eq] at h
  split at h
  · cases h
  split at h
  · obtain ⟨sid', hs, hr⟩ := Option.bind_eq_some_iff.mp ‹_›
    exact ⟨sid', _, hs, hr, answered_resumed h⟩
  · cases h

theorem clientById_resumed {c : Cache} {now : Nat} {sid : Str} {ans : ServerAnswer} {ra : Bool}
    {sid' : Str} {key : Option Nat} {user : String} {auth : Bool}
    (h : (clientById c now sid ans ra).2 = .resumed sid' key user auth) :
    ∃ e, c.resumable now ra sid = some e ∧
      ans = .authorized ∧ sid' = e.id ∧ key = e.key ∧ user = e.user ∧ auth = e.authenticated := by
  rw [clientById_eq] at h
  split at h
  · exact ⟨_, ‹_›, answered_resumed h⟩
  · cases h

/-- An invariant has to be checked against shrinking (`hf`: what a lookup or an invalidation does)
    and against the renewal in place of the entry that is ridden — nothing else. -/
theorem resume_preserves {P : Cache → Prop} {now : Nat} {c : Cache} (h : P c)
    (hf : ∀ q m, m ⊆ c.cmdMap → P ⟨c.sessions.filter q, m⟩)
    (hs : ∀ ra sid e, c.resumable now ra sid = some e → P (c.store (e.renew now))) :
    (∀ sid w n ra, P (serverResume c now sid w n ra).1) ∧
    (∀ tag addr cmd ans ra, P (clientTry c now tag addr cmd ans ra).1) ∧
    (∀ sid ans ra, P (clientById c now sid ans ra).1) := by
  have ha : ∀ ra sid e ans, c.resumable now ra sid = some e → P (answered c now e ans).1 := by
    intro ra sid e ans hr
    cases ans with
    | authorized => exact hs ra sid e hr
    | sidNotFound | broken => exact invalidate_preserves hf e.id
    | other _ => exact h
  refine ⟨fun sid w n ra => ?_, fun tag addr cmd ans ra => ?_, fun sid ans ra => ?_⟩
  · rw [serverResume_eq]
    split
    · exact hs _ _ _ ‹_›
    · exact lookupNonExpired_preserves h hf now sid
  · rw [clientTry_eq]
    split
    · exact h
    split
    · obtain ⟨_, _, hr⟩ := Option.bind_eq_some_iff.mp ‹_›
      exact ha _ _ _ _ hr
    · exact h
  · rw [clientById_eq]
    split
    · exact ha _ _ _ _ ‹_›
    · exact lookupNonExpired_preserves h hf now sid

end Cedar.SC
