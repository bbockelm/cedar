/-
  What the Decode model computes on particular families of inputs, for C13: a capped read of input
  that exceeds the cap FAILS (it is not cut short), and the `Legacy` readers (the code before
  F-C13-raw-count-spin and F-C13-readnext-recursion) run away on the witnesses of
  `C13.legacy_steps_fails` and `C13.legacy_depth_fails`.
-/
import CedarProofs.DecodeLemmas

namespace Cedar.Decode
open Cedar

/-- a Boolean test for one error, so that examples about any result type are decided by evaluation -/
def isErr {α : Type} (e : Err) : Except Err α → Bool
  | .error e' => e' == e
  | .ok _ => false

theorem isErr_iff {α : Type} (e : Err) (r : Except Err α) : isErr e r = true ↔ r = .error e := by
  cases r <;> simp [isErr]

theorem cstrMax_fails (cap : Nat) : ∀ (fuel : Nat) (s : St) (acc : Bytes) (k : Nat) (pre rest : Bytes),
    s.d.buf = pre ++ rest → pre.length = fuel → (∀ b ∈ pre, b ≠ 0) →
    (cstrMax cap fuel s acc k).1 = .error .sizeExceeded := by
  intro fuel
  induction fuel with
  | zero => intro s acc k pre rest _ _ _; rfl
  | succ fuel ih =>
    intro s acc k pre rest hb hl hnz
    cases pre with
    | nil => simp at hl
    | cons c pre' =>
      have hb' : s.d.buf = c :: (pre' ++ rest) := by rw [hb]; rfl
      have hc : c ≠ 0 := hnz c (List.mem_cons_self ..)
      simp only [cstrMax, ensure_of_buffered 1 s (by simp [hb']), hb', if_neg hc]
      apply ih _ _ _ pre' rest
      · rfl
      · simpa using hl
      · intro b hbm; exact hnz b (List.mem_cons_of_mem _ hbm)

theorem getStringMax_plain_fails (cap : Nat) (hc : 0 < cap) (s : St) (pre rest : Bytes) (henc : s.enc = false)
    (hb : s.d.buf = pre ++ rest) (hl : pre.length = cap) (hnz : ∀ b ∈ pre, b ≠ 0) :
    (getStringMax cap s).1 = .error .sizeExceeded := by
  unfold getStringMax
  rw [if_neg (by omega)]
  have h1 : (s.call).enc = false := henc
  simp only [h1]
  exact cstrMax_fails cap cap s.call [] 0 pre rest hb hl hnz

theorem getStringMax_enc_fails (cap : Nat) (hc : 0 < cap) (s : St) (len : Int) (s1 : St) (henc : s.enc = true)
    (hlen : getInt32 s.call = (.ok len, s1)) (hbig : (cap : Int) < len) :
    ∀ v, (getStringMax cap s).1 ≠ .ok v := by
  intro v
  unfold getStringMax
  rw [if_neg (by omega)]
  have h1 : (s.call).enc = true := henc
  simp only [h1, if_true, hlen]
  rw [if_neg (by omega)]
  generalize ensure (min len.toNat cap) s1 = er
  obtain ⟨r, s2⟩ := er
  cases r with
  | error e => simp
  | ok u =>
    simp only
    rw [if_pos (by omega)]
    simp

theorem adString_over_budget (cap : Nat) (hc : 0 < cap) (total : Nat) (s : St) (ht : cap ≤ total) :
    adString cap total s = (.error .sizeExceeded, s) ∧ adSecret cap total s = (.error .sizeExceeded, s) := by
  unfold adString adSecret
  rw [if_neg (by omega), if_pos ht, if_neg (by omega), if_pos ht]
  exact ⟨rfl, rfl⟩

/-- an empty plaintext message whose end has been seen -/
def sEOM (m : Meter) : St := ⟨⟨[], true, []⟩, false, false, m⟩

theorem getString_sEOM (m : Meter) :
    getString (sEOM m) = (.ok [], sEOM { m with calls := m.calls + 1, need := max m.need 1 }) := rfl

/-- the raw reader before F-C13-raw-count-spin performs one string read per COUNTED expression,
    whatever the input -/
theorem legacy_rawLoop_calls : ∀ (n : Nat) (m : Meter) (acc : List Bytes),
    (Legacy.rawLoop n (sEOM m) acc).2.m.calls = m.calls + n := by
  intro n
  induction n with
  | zero => intro m acc; rfl
  | succ n ih =>
    intro m acc
    have hne : ([] : Bytes) ≠ secretMarker := by decide
    simp only [Legacy.rawLoop, getString_sEOM, if_neg hne]
    have : (sEOM { m with calls := m.calls + 1, need := max m.need 1 }).addAlloc (([] : Bytes).length + 1) =
        sEOM { m with calls := m.calls + 1, need := max m.need 1, alloc := m.alloc + 1 } := rfl
    rw [this, ih]
    simp only
    omega

/-- `k` empty partial frames followed by an empty final frame -/
def flood : Nat → Bytes
  | 0 => [1, 0, 0, 0, 0]
  | k + 1 => 0 :: 0 :: 0 :: 0 :: 0 :: flood k

theorem flood_length (k : Nat) : (flood k).length = 5 * k + 5 := by
  induction k with
  | zero => rfl
  | succ k ih => simp only [flood, List.length_cons, ih]; omega

theorem recvFrame_empty (f : UInt8) (hf : f.toNat ≤ 10) (rest : Bytes) (m : WMeter) :
    recvFrame false (f :: 0 :: 0 :: 0 :: 0 :: rest) m = (.ok (f.toNat, [], rest), { m with frames := m.frames + 1 }) := by
  simp [recvFrame, lenGe, headerSize, CedarGen.stream.NormalHeaderSize, beVal, maxMessageSize, CedarGen.stream.MaxMessageSize,
    Nat.not_lt.mpr hf]

/-- the multi-frame reader before F-C13-readnext-recursion uses one stack frame per partial frame -/
theorem legacy_depth : ∀ (k fuel d : Nat) (acc : Bytes) (m : WMeter), k < fuel →
    (Legacy.readMessage false fuel (flood k) acc d m).2.depth = max m.depth (d + k + 1) := by
  intro k
  induction k with
  | zero =>
    intro fuel d acc m hf
    obtain ⟨f, rfl⟩ : ∃ f, fuel = f + 1 := ⟨fuel - 1, by omega⟩
    simp [Legacy.readMessage, flood, recvFrame_empty 1 (by decide)]
  | succ k ih =>
    intro fuel d acc m hf
    obtain ⟨f, rfl⟩ : ∃ f, fuel = f + 1 := ⟨fuel - 1, by omega⟩
    simp only [Legacy.readMessage, flood, recvFrame_empty 0 (by decide)]
    rw [if_pos (show (0 : UInt8).toNat = 0 from rfl)]
    rw [ih f (d + 1) _ _ (by omega)]
    simp only
    omega

end Cedar.Decode
