/-
  The decoder of the typed layer (for C14, C01, C08): `ensureData` by its own recursion, and as a
  refinement of "all payload bytes of the message" — what the `Get*` primitives read depends on
  the pending bytes only, not on where frames are cut.
-/
import CedarModel.Codec
import CedarProofs.BasicLemmas

namespace Cedar

theorem ensure_mk (n : Nat) (buf : Bytes) (isEOM : Bool) (src : List OutFrame) :
    (⟨buf, isEOM, src⟩ : Dec).ensure n =
      if n ≤ buf.length then .ok ⟨buf, isEOM, src⟩
      else if isEOM then .error .eom
      else match src with
        | [] => .error .eof
        | (p, e) :: rest => (⟨buf ++ p, e, rest⟩ : Dec).ensure n := by
  -- `Dec.ensure` is `ensureAux` and then a length check; `ensureAux` stops when `lenGe buf n || isEOM`,
  -- and where it stops short at the end of the message the length check makes that `eom`
  unfold Dec.ensure
  by_cases h : n ≤ buf.length
  · rw [if_pos h]; cases src <;> simp [ensureAux, lenGe_eq_decide, h]
  · rw [if_neg h]; cases isEOM <;> cases src <;> simp [ensureAux, lenGe_eq_decide, h]

theorem ensure_of_le (d : Dec) (n : Nat) (h : n ≤ d.buf.length) : d.ensure n = .ok d := by
  obtain ⟨buf, isEOM, src⟩ := d
  rw [ensure_mk, if_pos h]

theorem ensure_induct (n : Nat) (P : Dec → Except Err Dec → Prop)
    (stop : ∀ d, n ≤ d.buf.length → P d (.ok d))
    (eom : ∀ buf src, buf.length < n → P ⟨buf, true, src⟩ (.error .eom))
    (eof : ∀ buf, buf.length < n → P ⟨buf, false, []⟩ (.error .eof))
    (pull : ∀ buf p e rest r, buf.length < n → P ⟨buf ++ p, e, rest⟩ r → P ⟨buf, false, (p, e) :: rest⟩ r)
    (d : Dec) : P d (d.ensure n) := by
  obtain ⟨buf, isEOM, src⟩ := d
  induction src generalizing buf isEOM with
  | nil =>
    rw [ensure_mk]
    by_cases h : n ≤ buf.length
    · rw [if_pos h]; exact stop _ h
    · rw [if_neg h]
      cases isEOM
      · exact eof _ (by omega)
      · exact eom _ _ (by omega)
  | cons f rest ih =>
    rw [ensure_mk]
    by_cases h : n ≤ buf.length
    · rw [if_pos h]; exact stop _ h
    · rw [if_neg h]
      cases isEOM
      · exact pull _ _ _ _ _ (by omega) (ih _ _)
      · exact eom _ _ (by omega)

theorem ensure_ok_len (d d1 : Dec) (n : Nat) : d.ensure n = .ok d1 → n ≤ d1.buf.length :=
  ensure_induct n (fun _ r => r = .ok d1 → n ≤ d1.buf.length)
    (fun _ h e => by cases e; exact h) (fun _ _ _ => nofun) (fun _ _ => nofun) (fun _ _ _ _ _ _ ih => ih) d

theorem ensure_err_class (d : Dec) (n : Nat) (e : Err) : d.ensure n = .error e → e = .eof ∨ e = .eom :=
  ensure_induct n (fun _ r => r = .error e → e = .eof ∨ e = .eom)
    (fun _ _ => nofun) (fun _ _ _ h => by cases h; exact .inr rfl) (fun _ _ h => by cases h; exact .inl rfl)
    (fun _ _ _ _ _ _ ih => ih) d

theorem ensure_total (d d1 : Dec) (n : Nat) : d.ensure n = .ok d1 → d1.total = d.total :=
  ensure_induct n (fun d r => r = .ok d1 → d1.total = d.total)
    (fun _ _ e => by cases e; rfl) (fun _ _ _ => nofun) (fun _ _ => nofun)
    (fun _ _ _ _ _ _ ih h => by
      rw [ih h]; simp only [Dec.total, List.length_append, List.map_cons, List.sum_cons]; omega) d

theorem ensure_ensure (m n : Nat) (hmn : m ≤ n) (d : Dec) : d.ensure n = d.ensure m >>= (·.ensure n) :=
  ensure_induct m (fun d r => d.ensure n = r >>= (·.ensure n))
    (fun _ _ => rfl)
    (fun _ _ h => by rw [ensure_mk, if_neg (by omega)]; rfl)
    (fun _ h => by rw [ensure_mk, if_neg (by omega)]; rfl)
    (fun _ _ _ _ _ h ih => by rw [ensure_mk, if_neg (by omega)]; exact ih) d

theorem ensure_append (pre : Bytes) (n : Nat) (d : Dec) :
    ({ d with buf := pre ++ d.buf } : Dec).ensure (pre.length + n) =
      (d.ensure n).map fun d1 => { d1 with buf := pre ++ d1.buf } :=
  ensure_induct n
    (fun d r => ({ d with buf := pre ++ d.buf } : Dec).ensure (pre.length + n) = r.map fun d1 => { d1 with buf := pre ++ d1.buf })
    (fun d h => ensure_of_le _ _ (by simp; omega))
    (fun _ _ h => by rw [ensure_mk, if_neg (by simp; omega)]; rfl)
    (fun _ h => by rw [ensure_mk, if_neg (by simp; omega)]; rfl)
    (fun _ _ _ _ _ h ih => by
      rw [ensure_mk, if_neg (by simp; omega)]
      simpa only [List.append_assoc, Bool.false_eq_true, if_false] using ih) d

theorem getBytes_eq (d : Dec) (n : Int) :
    d.getBytes n = (d.ensure n.toNat).map fun d1 => (d1.buf.take n.toNat, { d1 with buf := d1.buf.drop n.toNat }) := by
  unfold Dec.getBytes
  split
  · rw [Int.toNat_of_nonpos ‹_›, ensure_of_le d 0 (Nat.zero_le _)]; rfl
  · cases d.ensure n.toNat <;> rfl

theorem getBytes_length (d d' : Dec) (n : Int) (data : Bytes) (h : d.getBytes n = .ok (data, d')) :
    data.length = n.toNat := by
  rw [getBytes_eq] at h
  cases he : d.ensure n.toNat with
  | error e => rw [he] at h; cases h
  | ok d1 =>
    rw [he] at h; cases h
    rw [List.length_take, Nat.min_eq_left (ensure_ok_len d d1 _ he)]

/-- payload bytes up to and including the first end-of-message frame; `none` if the connection
    ends before one arrives -/
def pendingSrc : List OutFrame → Option Bytes
  | [] => none
  | (p, true) :: _ => some p
  | (p, false) :: rest => (pendingSrc rest).map (p ++ ·)

/-- all bytes of the current message the decoder has not consumed yet -/
def Dec.pending (d : Dec) : Option Bytes :=
  if d.isEOM then some d.buf else (pendingSrc d.src).map (d.buf ++ ·)

theorem pending_cons (buf p : Bytes) (e : Bool) (rest : List OutFrame) :
    Dec.pending ⟨buf, false, (p, e) :: rest⟩ = Dec.pending ⟨buf ++ p, e, rest⟩ := by
  cases e
  · simp only [Dec.pending, pendingSrc, Bool.false_eq_true, if_false, Option.map_map, Function.comp_def,
      List.append_assoc]
  · rfl

theorem pending_eq_some {d : Dec} {B : Bytes} : d.pending = some B ↔
    d.isEOM = true ∧ B = d.buf ∨ d.isEOM = false ∧ ∃ r, pendingSrc d.src = some r ∧ B = d.buf ++ r := by
  unfold Dec.pending
  cases d.isEOM
  · simp [Option.map_eq_some_iff, eq_comm]
  · simp [eq_comm]

theorem pending_prefix {d : Dec} {B : Bytes} (h : d.pending = some B) : ∃ r, B = d.buf ++ r := by
  rcases pending_eq_some.mp h with ⟨_, hB⟩ | ⟨_, r, _, hB⟩
  · exact ⟨[], by rw [hB, List.append_nil]⟩
  · exact ⟨r, hB⟩

theorem ensure_spec (d : Dec) (n : Nat) (B : Bytes) (h : d.pending = some B) :
    (B.length ≥ n ∧ ∃ d', d.ensure n = .ok d' ∧ d'.pending = some B ∧ d'.buf.length ≥ n ∧
                        (∃ r, B = d'.buf ++ r)) ∨
    (B.length < n ∧ d.ensure n = .error .eom) :=
  ensure_induct n
    (fun d res => ∀ B, d.pending = some B →
      (B.length ≥ n ∧ ∃ d', res = .ok d' ∧ d'.pending = some B ∧ d'.buf.length ≥ n ∧ (∃ r, B = d'.buf ++ r)) ∨
      (B.length < n ∧ res = .error .eom))
    (fun d hl B h => by
      obtain ⟨r, hr⟩ := pending_prefix h
      exact .inl ⟨by rw [hr, List.length_append]; omega, d, rfl, h, hl, r, hr⟩)
    (fun _ _ hl B h => by cases h; exact .inr ⟨hl, rfl⟩)
    (fun _ _ B h => nomatch h)
    (fun _ _ _ _ _ _ ih B h => ih B (pending_cons .. ▸ h))
    d B h

theorem pending_drop (d : Dec) (k : Nat) (B : Bytes) (h : d.pending = some B) (hk : k ≤ d.buf.length) :
    ({ d with buf := d.buf.drop k } : Dec).pending = some (B.drop k) := by
  rcases pending_eq_some.mp h with ⟨hE, rfl⟩ | ⟨hE, r, hr, rfl⟩
  · exact pending_eq_some.mpr (.inl ⟨hE, rfl⟩)
  · exact pending_eq_some.mpr (.inr ⟨hE, r, hr, List.drop_append_of_le_length hk⟩)

theorem ensure_take (d : Dec) (n : Nat) (B : Bytes) (h : d.pending = some B) (hn : n ≤ B.length) :
    ∃ d1, d.ensure n = .ok d1 ∧ d1.buf.take n = B.take n ∧
      ({ d1 with buf := d1.buf.drop n } : Dec).pending = some (B.drop n) := by
  rcases ensure_spec d n B h with ⟨_, d1, hok, hp, hb, r, hr⟩ | ⟨hl, _⟩
  · exact ⟨d1, hok, by rw [hr, List.take_append_of_le_length hb], pending_drop d1 n B hp hb⟩
  · omega

theorem ensure_short (d : Dec) (n : Nat) (B : Bytes) (h : d.pending = some B) (hn : B.length < n) :
    d.ensure n = .error .eom := by
  rcases ensure_spec d n B h with ⟨hl, _⟩ | ⟨_, herr⟩
  · omega
  · exact herr

theorem pendingSrc_le_total : ∀ (src : List OutFrame) (B : Bytes), pendingSrc src = some B →
    B.length ≤ (src.map (·.1.length)).sum
  | [], _, h => nomatch h
  | (p, true) :: _, _, h => by
    cases h; simp only [List.map_cons, List.sum_cons]; omega
  | (p, false) :: rest, _, h => by
    obtain ⟨r, hr, rfl⟩ := Option.map_eq_some_iff.mp h
    have := pendingSrc_le_total rest r hr
    simp only [List.length_append, List.map_cons, List.sum_cons]; omega

theorem pending_le_total (d : Dec) (B : Bytes) (h : d.pending = some B) : B.length ≤ d.total := by
  unfold Dec.total
  rcases pending_eq_some.mp h with ⟨_, rfl⟩ | ⟨_, r, hr, rfl⟩
  · omega
  · have := pendingSrc_le_total d.src r hr
    rw [List.length_append]; omega

theorem getInt_spec (d : Dec) (B : Bytes) (h : d.pending = some B) :
    (B.length ≥ 8 ∧ ∃ d', d.getInt = .ok (ofU64 (beVal (B.take 8)), d') ∧ d'.pending = some (B.drop 8)) ∨
    (B.length < 8 ∧ d.getInt = .error .eom) := by
  unfold Dec.getInt
  by_cases hl : B.length ≥ 8
  · obtain ⟨d1, hok, ht, hp⟩ := ensure_take d 8 B h hl
    exact .inl ⟨hl, _, by rw [hok, ← ht], hp⟩
  · exact .inr ⟨by omega, by rw [ensure_short d 8 B h (by omega)]⟩

theorem getInt_be64_toU64 (d : Dec) (x : Int) (rest : Bytes) (h1 : -(2^63 : Int) ≤ x) (h2 : x < (2^63 : Int))
    (hp : d.pending = some (be64 (toU64 x) ++ rest)) :
    ∃ d', d.getInt = .ok (x, d') ∧ d'.pending = some rest := by
  rcases getInt_spec d _ hp with ⟨_, d1, hok, hp1⟩ | ⟨hl, _⟩
  · rw [List.take_left' (length_be64 _), ofU64_beVal_be64_toU64 x h1 h2] at hok
    rw [List.drop_left' (length_be64 _)] at hp1
    exact ⟨d1, hok, hp1⟩
  · rw [List.length_append, length_be64] at hl; omega

/-- holds for `n = 0` too: `hn` is not used -/
theorem getBytes_spec (d : Dec) (n : Nat) (hn : 0 < n) (B : Bytes) (h : d.pending = some B) :
    (B.length ≥ n ∧ ∃ d', d.getBytes n = .ok (B.take n, d') ∧ d'.pending = some (B.drop n)) ∨
    (B.length < n ∧ d.getBytes n = .error .eom) := by
  rw [getBytes_eq, Int.toNat_natCast]
  by_cases hl : B.length ≥ n
  · obtain ⟨d1, hok, ht, hp⟩ := ensure_take d n B h hl
    exact .inl ⟨hl, _, by rw [hok, ← ht]; rfl, hp⟩
  · exact .inr ⟨by omega, by rw [ensure_short d n B h (by omega)]; rfl⟩

theorem ensure_cons (d : Dec) (c : UInt8) (rest : Bytes) (h : d.pending = some (c :: rest)) :
    ∃ d1 b', d.ensure 1 = .ok d1 ∧ d1.buf = c :: b' ∧ ({ d1 with buf := b' } : Dec).pending = some rest := by
  obtain ⟨d1, hok, ht, hp⟩ := ensure_take d 1 _ h (Nat.le_add_left 1 _)
  cases hbuf : d1.buf with
  | nil => rw [hbuf] at ht; cases ht
  | cons c' b' =>
    rw [hbuf] at ht hp
    cases ht
    exact ⟨d1, b', hok, hbuf, hp⟩

theorem getChar_cons (d : Dec) (c : UInt8) (rest : Bytes) (h : d.pending = some (c :: rest)) :
    ∃ d', d.getChar = .ok (c, d') ∧ d'.pending = some rest := by
  obtain ⟨d1, b', hok, hbuf, hp⟩ := ensure_cons d c rest h
  exact ⟨_, by simp only [Dec.getChar, hok, hbuf], hp⟩

theorem getChar_spec (d : Dec) (B : Bytes) (h : d.pending = some B) :
    (∃ c rest d', B = c :: rest ∧ d.getChar = .ok (c, d') ∧ d'.pending = some rest) ∨
    (B = [] ∧ d.getChar = .error .eom) := by
  cases B with
  | nil => exact .inr ⟨rfl, by rw [Dec.getChar, ensure_short d 1 [] h Nat.one_pos]⟩
  | cons c rest =>
    obtain ⟨d', hok, hp⟩ := getChar_cons d c rest h
    exact .inl ⟨c, rest, d', rfl, hok, hp⟩

/-- with `reverseAux` in place of `reverse` every case is `rfl` -/
theorem getCStr_acc : ∀ (fuel : Nat) (d : Dec) (acc : Bytes),
    getCStr fuel d acc = (getCStr fuel d []).map fun p => (acc.reverseAux p.1, p.2) := by
  intro fuel
  induction fuel with
  | zero => intro d acc; rfl
  | succ fuel ih =>
    intro d acc
    unfold getCStr
    cases d.ensure 1 with
    | error e => cases e <;> rfl
    | ok d1 =>
      dsimp only
      cases d1.buf with
      | nil => rfl
      | cons c rest =>
        dsimp only
        split
        · rfl
        · rw [ih _ (c :: acc), ih _ [c]]
          cases getCStr fuel _ [] <;> rfl

theorem getCStr_spec : ∀ (s : Bytes) (fuel : Nat) (d : Dec) (acc rest : Bytes),
    (∀ b ∈ s, b ≠ 0) → s.length < fuel → d.pending = some (s ++ 0 :: rest) →
    ∃ d', getCStr fuel d acc = .ok (acc.reverse ++ s, d') ∧ d'.pending = some rest := by
  intro s
  induction s with
  | nil =>
    intro fuel d acc rest _ hf hp
    obtain ⟨fuel, rfl⟩ := Nat.exists_eq_succ_of_ne_zero (Nat.ne_of_gt hf)
    obtain ⟨d1, b', hok, hbuf, hp1⟩ := ensure_cons d 0 rest hp
    exact ⟨_, by simp only [getCStr, hok, hbuf, if_true, List.append_nil], hp1⟩
  | cons a t ih =>
    intro fuel d acc rest hnz hf hp
    obtain ⟨fuel, rfl⟩ := Nat.exists_eq_succ_of_ne_zero (Nat.ne_of_gt (Nat.zero_lt_of_lt hf))
    obtain ⟨d1, b', hok, hbuf, hp1⟩ := ensure_cons d a _ hp
    obtain ⟨d', hok', hp'⟩ := ih fuel { d1 with buf := b' } (a :: acc) rest
      (fun b hb => hnz b (List.mem_cons_of_mem _ hb)) (Nat.lt_of_succ_lt_succ hf) hp1
    refine ⟨d', ?_, hp'⟩
    simp only [getCStr, hok, hbuf, hnz a (List.mem_cons_self ..), if_false, hok', List.reverse_cons,
      List.append_assoc, List.singleton_append]

theorem getString_plain (d : Dec) : d.getString false = getCStr (d.total + 1) d [] := by
  unfold Dec.getString
  rw [if_neg (by decide)]
  cases getCStr (d.total + 1) d [] <;> rfl

theorem stripTrailingNul_snoc (s : Bytes) : stripTrailingNul (s ++ [0]) = s := by
  unfold stripTrailingNul
  rw [List.getLast?_concat, List.dropLast_concat]
  rfl

theorem length_stripTrailingNul (d : Bytes) :
    (stripTrailingNul d).length ≤ d.length ∧ d.length ≤ (stripTrailingNul d).length + 1 := by
  unfold stripTrailingNul
  split
  · rw [List.length_dropLast]; omega
  · omega

/-- The `match` that the length-prefixed `GetString` ends in (`k` = what it does with the value); a
    string that starts with `BinNullChar` the receiver takes for the encoding of a null string. -/
theorem encStrValue_snoc {α : Type} (k : Bytes → α) {s : Bytes} (h : s.head? ≠ some binNullChar) :
    (match s ++ [0] with
      | c :: _ => if c = binNullChar then k [] else k (stripTrailingNul (s ++ [0]))
      | [] => k []) = k s := by
  have hs := stripTrailingNul_snoc s
  cases s with
  | nil => exact (if_neg (by decide)).trans (congrArg k hs)
  | cons c t => exact (if_neg fun hc => h (congrArg some hc)).trans (congrArg k hs)

/-- for the `ensureData(1)` at the top of every round of the raw and of the skipping ClassAd receiver
    (F-C13-raw-count-spin) -/
theorem getString_after_ensure (enc : Bool) (d d1 : Dec) (h : d.ensure 1 = .ok d1) :
    d1.getString enc = d.getString enc := by
  cases enc with
  | true =>
    have : d1.getInt32 = d.getInt32 := by
      unfold Dec.getInt32 Dec.getInt
      rw [ensure_ensure 1 8 (by omega) d, h]; rfl
    unfold Dec.getString
    rw [if_pos rfl, if_pos rfl, this]
  | false =>
    have h1 : d1.ensure 1 = .ok d1 := ensure_of_le _ _ (ensure_ok_len d d1 1 h)
    rw [getString_plain, getString_plain, ensure_total d d1 1 h]
    conv => lhs; unfold getCStr
    conv => rhs; unfold getCStr
    rw [h1, h]

theorem getString_of_ensure_err (enc : Bool) (d : Dec) (e : Err) (h : d.ensure 1 = .error e) :
    d.getString enc = .error e ∨ (e = .eom ∧ enc = false ∧ d.getString enc = .ok ([], d.drainToEOM)) := by
  cases enc with
  | true =>
    left
    unfold Dec.getString Dec.getInt32 Dec.getInt
    rw [ensure_ensure 1 8 (by omega) d, h]; rfl
  | false =>
    rw [getString_plain]
    unfold getCStr
    rw [h]
    rcases ensure_err_class d 1 e h with rfl | rfl
    · exact .inl rfl
    · exact .inr ⟨rfl, rfl, rfl⟩

theorem drainAll_spec : ∀ (src : List OutFrame) (buf : Bytes) (isEOM : Bool),
    match Dec.pending ⟨buf, isEOM, src⟩ with
    | some B => ∃ d', drainAll buf isEOM src = .ok d' ∧ d'.buf = B ∧ d'.isEOM = true
    | none => drainAll buf isEOM src = .error .eof := by
  intro src
  induction src with
  | nil =>
    intro buf isEOM
    cases isEOM
    · exact rfl
    · exact ⟨_, rfl, rfl, rfl⟩
  | cons f rest ih =>
    intro buf isEOM
    obtain ⟨p, e⟩ := f
    cases isEOM with
    | true => exact ⟨_, rfl, rfl, rfl⟩
    | false => rw [pending_cons]; exact ih (buf ++ p) e

theorem getRemaining_spec (d : Dec) (B : Bytes) (h : d.pending = some B) :
    ∃ d', d.getRemaining = .ok (B, d') ∧ d'.pending = some [] := by
  have := drainAll_spec d.src d.buf d.isEOM
  rw [show Dec.pending ⟨d.buf, d.isEOM, d.src⟩ = some B from h] at this
  obtain ⟨d1, hok, hb, he⟩ := this
  exact ⟨{ d1 with buf := [] }, by simp only [Dec.getRemaining, hok, hb], pending_eq_some.mpr (.inl ⟨he, rfl⟩)⟩

theorem getRemaining_truncated (d : Dec) (h : d.pending = none) : d.getRemaining = .error .eof := by
  have := drainAll_spec d.src d.buf d.isEOM
  rw [show Dec.pending ⟨d.buf, d.isEOM, d.src⟩ = none from h] at this
  rw [Dec.getRemaining, this]

end Cedar
