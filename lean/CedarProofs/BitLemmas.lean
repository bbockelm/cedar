/-
  Bit-level facts used by the completeness proof of the authentication retry loop (C10):
  single-bit masks, removing a set bit by subtraction, and the bits of a mask built by or-ing
  (`bitmaskOf`).
-/
namespace Cedar.Bits

theorem and_two_pow (mask i : Nat) : mask &&& 2 ^ i = if mask.testBit i then 2 ^ i else 0 := by
  apply Nat.eq_of_testBit_eq
  intro j
  rw [Nat.testBit_and, Nat.testBit_two_pow]
  by_cases hij : i = j
  · subst hij; cases mask.testBit i <;> simp
  · cases mask.testBit i <;> simp [hij]

theorem and_two_pow_ne_zero {mask i : Nat} : (mask &&& 2 ^ i ≠ 0) ↔ mask.testBit i = true := by
  rw [and_two_pow]
  cases mask.testBit i <;> simp

theorem two_pow_and_eq_iff {mask i : Nat} : (2 ^ i &&& mask = 2 ^ i) ↔ mask.testBit i = true := by
  rw [Nat.and_comm, and_two_pow]
  cases mask.testBit i with
  | false => simp [Nat.ne_of_lt (Nat.two_pow_pos i)]
  | true => simp

/-- the model writes Go's `availableBitmask &= ^bit` as `mask - bit` (the client removes only a bit
    it found in the mask) -/
theorem testBit_sub_two_pow {mask i : Nat} (h : mask.testBit i = true) (j : Nat) :
    (mask - 2 ^ i).testBit j = (mask.testBit j && decide (i ≠ j)) := by
  induction i generalizing mask j with
  | zero =>
    -- `mask` is odd, `2 * q + 1`: without the 1, bit 0 is clear and `q` still sits above it
    obtain ⟨q, rfl⟩ : ∃ q, mask = 2 * q + 1 := ⟨mask / 2, by
      have := Nat.div_add_mod mask 2
      rwa [Nat.mod_two_eq_one_iff_testBit_zero.mpr h, eq_comm] at this⟩
    rw [Nat.pow_zero, Nat.add_sub_cancel]
    cases j with
    | zero => simp
    | succ j =>
      rw [Nat.testBit_succ, Nat.testBit_succ, Nat.mul_div_cancel_left _ (by decide), Nat.mul_add_div (by decide)]
      simp
  | succ i ih =>
    -- `2 ^ (i + 1) = 2 * 2 ^ i`: bit 0 is untouched, the bits above are those of `mask / 2 - 2 ^ i`
    have hge : 2 * 2 ^ i ≤ mask := Nat.pow_succ' ▸ Nat.ge_two_pow_of_testBit h
    rw [Nat.pow_succ']
    cases j with
    | zero => rw [Nat.testBit_zero, Nat.testBit_zero, Nat.sub_mul_mod hge]; simp
    | succ j => rw [Nat.testBit_succ, Nat.testBit_succ, Nat.sub_mul_div, ih (Nat.testBit_succ .. ▸ h)]; simp

theorem sub_two_pow_lt {mask i : Nat} (h : mask.testBit i = true) : mask - 2 ^ i < mask :=
  Nat.sub_lt (Nat.lt_of_lt_of_le (Nat.two_pow_pos i) (Nat.ge_two_pow_of_testBit h)) (Nat.two_pow_pos i)

theorem testBit_foldl_lor {α : Type} (f : α → Nat) (i : Nat) (l : List α) (acc : Nat) :
    (l.foldl (fun a x => Nat.lor a (f x)) acc).testBit i = (acc.testBit i || l.any fun x => (f x).testBit i) := by
  induction l generalizing acc with
  | nil => simp
  | cons x l ih => rw [List.foldl_cons, ih, List.any_cons, ← Bool.or_assoc]; exact congrArg (· || _) (Nat.testBit_or ..)

end Cedar.Bits
