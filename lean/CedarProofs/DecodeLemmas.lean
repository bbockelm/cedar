/-
  The typed layer of the Decode model, for C13. The argument is one of potentials: `Law` relates the
  states before and after an operation (frames, calls and allocation are paid for by bytes leaving
  the wire) and composes by `Law.trans`; `Quiet` is `Law` with no string-level operation, plus the
  cap bookkeeping. A string-level operation is `call` followed by something quiet: `Law 1 0`, the
  one `IsEncrypted()` query may go unpaid. Every `_facts` lemma says what holds of the `Outcome` of
  its function on an arbitrary state: what it costs, never which value it returns or what the decoder
  is afterwards. To compute a run start from `ensure_of_buffered`, as DecodeRuns does. `np`, in fields
  and lemma names, is "no panic": `r ≠ .error .panic`; `cap = 0` in `AdStrFacts` is the reader
  without budget.

  The loops of the model are fuelled. That the fuel suffices (the `.error .state` branch of `cstr`,
  `skipC`, `skipIsC`, `discard` is not taken) is NOT proved here: the `_facts` lemmas hold for every
  fuel, and treat running out of it as one more error.

  `Decode.ensure` transcribes `ensureData` a second time, with meters; no statement relates it to
  `Dec.ensure`.
-/
import CedarModel.Decode
import CedarProofs.CodecLemmas

namespace Cedar.Decode
open Cedar

@[simp] theorem setBuf_d_buf (s : St) (b : Bytes) : (s.setBuf b).d.buf = b := rfl
@[simp] theorem setBuf_d_src (s : St) (b : Bytes) : (s.setBuf b).d.src = s.d.src := rfl
@[simp] theorem setBuf_d_eom (s : St) (b : Bytes) : (s.setBuf b).d.isEOM = s.d.isEOM := rfl
@[simp] theorem setBuf_m (s : St) (b : Bytes) : (s.setBuf b).m = s.m := rfl
@[simp] theorem setBuf_enc (s : St) (b : Bytes) : (s.setBuf b).enc = s.enc := rfl
@[simp] theorem setBuf_key (s : St) (b : Bytes) : (s.setBuf b).key = s.key := rfl
@[simp] theorem addAlloc_d (s : St) (n : Nat) : (s.addAlloc n).d = s.d := rfl
@[simp] theorem addAlloc_enc (s : St) (n : Nat) : (s.addAlloc n).enc = s.enc := rfl
@[simp] theorem addAlloc_key (s : St) (n : Nat) : (s.addAlloc n).key = s.key := rfl
@[simp] theorem addAlloc_frames (s : St) (n : Nat) : (s.addAlloc n).m.frames = s.m.frames := rfl
@[simp] theorem addAlloc_calls (s : St) (n : Nat) : (s.addAlloc n).m.calls = s.m.calls := rfl
@[simp] theorem addAlloc_alloc (s : St) (n : Nat) : (s.addAlloc n).m.alloc = s.m.alloc + n := rfl
@[simp] theorem addAlloc_need (s : St) (n : Nat) : (s.addAlloc n).m.need = s.m.need := rfl
@[simp] theorem addAlloc_held (s : St) (n : Nat) : (s.addAlloc n).m.held = s.m.held := rfl
@[simp] theorem hold_d (s : St) (n : Nat) : (s.hold n).d = s.d := rfl
@[simp] theorem hold_enc (s : St) (n : Nat) : (s.hold n).enc = s.enc := rfl
@[simp] theorem hold_key (s : St) (n : Nat) : (s.hold n).key = s.key := rfl
@[simp] theorem hold_frames (s : St) (n : Nat) : (s.hold n).m.frames = s.m.frames := rfl
@[simp] theorem hold_calls (s : St) (n : Nat) : (s.hold n).m.calls = s.m.calls := rfl
@[simp] theorem hold_alloc (s : St) (n : Nat) : (s.hold n).m.alloc = s.m.alloc := rfl
@[simp] theorem hold_need (s : St) (n : Nat) : (s.hold n).m.need = s.m.need := rfl
@[simp] theorem hold_held (s : St) (n : Nat) : (s.hold n).m.held = max s.m.held n := rfl
@[simp] theorem call_d (s : St) : s.call.d = s.d := rfl
@[simp] theorem call_enc (s : St) : s.call.enc = s.enc := rfl
@[simp] theorem call_key (s : St) : s.call.key = s.key := rfl
@[simp] theorem call_frames (s : St) : s.call.m.frames = s.m.frames := rfl
@[simp] theorem call_calls (s : St) : s.call.m.calls = s.m.calls + 1 := rfl
@[simp] theorem call_alloc (s : St) : s.call.m.alloc = s.m.alloc := rfl
@[simp] theorem call_need (s : St) : s.call.m.need = s.m.need := rfl
@[simp] theorem call_held (s : St) : s.call.m.held = s.m.held := rfl

/-- the bytes not yet consumed: `sb` in the frames still to be pulled, `bl` in the buffer -/
def St.sb (s : St) : Nat := srcBytes s.d.src
def St.bl (s : St) : Nat := s.d.buf.length

theorem bytes_eq (s : St) : s.bytes = s.bl + s.sb := rfl

/-- the frame layer enforces `F = MaxMessageSize` -/
def FramesLe (F : Nat) (src : List OutFrame) : Prop := ∀ f ∈ src, f.1.length ≤ F

/-- After `split` the goal is `Outcome (r, s') P`: `dsimp only [Outcome]` before `omega`, which takes
    `(r, s').2` for an atom. -/
abbrev Outcome {α β : Type} (x : α × β) (P : α → β → Prop) : Prop := P x.1 x.2

theorem Outcome.of_eq {α β : Type} {x : α × β} {P : α → β → Prop} (p : Outcome x P) {r : α} {s' : β}
    (h : x = (r, s')) : P r s' := by
  subst h; exact p

theorem Outcome.ite {α β : Type} {c : Prop} [Decidable c] {a b : α × β} {P : α → β → Prop}
    (ha : c → Outcome a P) (hb : ¬c → Outcome b P) : Outcome (if c then a else b) P :=
  iteInduction (motive := (Outcome · P)) ha hb

theorem np_of_ne {β : Type} {e : Err} (h : e ≠ .panic) : (Except.error e : Except Err β) ≠ .error .panic := by
  intro hh; cases hh; exact h rfl

theorem np_ok {β : Type} (v : β) : (Except.ok v : Except Err β) ≠ .error .panic := nofun

theorem np_cast {α β : Type} {e : Err} (h : (Except.error e : Except Err α) ≠ .error .panic) :
    (Except.error e : Except Err β) ≠ .error .panic :=
  np_of_ne fun hh => h (by rw [hh])

theorem pull_spec {n : Nat} : ∀ {src : List OutFrame} {buf : Bytes} {eom : Bool} {m : Meter}
    {ok : Bool} {d1 : Dec} {m1 : Meter}, pull n buf eom src m = (ok, d1, m1) →
    m1.frames + d1.src.length = m.frames + src.length ∧
    m1.alloc + srcBytes d1.src = m.alloc + srcBytes src ∧ srcBytes d1.src ≤ srcBytes src ∧
    d1.buf.length + srcBytes d1.src = buf.length + srcBytes src ∧
    m1.calls = m.calls ∧ m1.held = m.held ∧ m1.need = m.need ∧
    (∃ k, d1.src = src.drop k) ∧
    (∀ F, FramesLe F src → d1.buf.length ≤ max buf.length (n + F)) := by
  intro src
  induction src with
  | nil =>
    intro buf eom m ok d1 m1 h
    cases h
    exact ⟨rfl, rfl, Nat.le_refl _, rfl, rfl, rfl, rfl, ⟨0, rfl⟩, fun F _ => Nat.le_max_left _ _⟩
  | cons f rest ih =>
    intro buf eom m ok d1 m1 h
    obtain ⟨p, e⟩ := f
    rw [pull] at h
    split at h
    next =>
      cases h
      exact ⟨rfl, rfl, Nat.le_refl _, rfl, rfl, rfl, rfl, ⟨0, rfl⟩, fun F _ => Nat.le_max_left _ _⟩
    next hc =>
      obtain ⟨fr, al, sbm, conserve, calls, held, need, ⟨k, suffix⟩, bound⟩ := ih h
      refine ⟨?_, ?_, Nat.le_trans sbm (Nat.le_add_left ..), ?_, calls, held, need, ⟨k + 1, suffix⟩,
        fun F hF => ?_⟩
      · exact fr.trans (Nat.add_right_comm ..)
      · exact al.trans (Nat.add_assoc ..)
      · rw [conserve, List.length_append, Nat.add_assoc, srcBytes]
      · simp only [lenGe_eq_decide, Bool.or_eq_true, decide_eq_true_eq, not_or, Nat.not_le] at hc
        have hp : (buf ++ p).length ≤ n + F :=
          List.length_append ▸ Nat.add_le_add (Nat.le_of_lt hc.1) (hF (p, e) (List.mem_cons_self ..))
        exact Nat.le_trans (bound F fun f hf => hF f (List.mem_cons_of_mem _ hf))
          (Nat.max_le.mpr ⟨Nat.le_trans hp (Nat.le_max_right ..), Nat.le_max_right ..⟩)

/-- Bookkeeping every operation obeys between the state before (`s`) and after (`s'`), also when
    it fails. `kc`, `ka` are the constants the operation may add. -/
structure Law (s s' : St) (kc ka : Nat) : Prop where
  enc : s'.enc = s.enc
  key : s'.key = s.key
  fr : s'.m.frames + s'.nsrc = s.m.frames + s.nsrc
  sbm : s'.sb ≤ s.sb
  bys : s'.bl + s'.sb ≤ s.bl + s.sb
  /-- string-level operations are paid for by consumed bytes, up to `kc` -/
  ca : s'.m.calls + s'.bl + s'.sb ≤ s.m.calls + s.bl + s.sb + kc
  /-- allocation is paid for by bytes leaving the wire (append to the buffer, then at most one
      copy out of it), up to `ka` -/
  al : s'.m.alloc + 2 * s'.sb + s'.bl ≤ s.m.alloc + 2 * s.sb + s.bl + ka

theorem Law.refl (s : St) : Law s s 0 0 :=
  ⟨rfl, rfl, rfl, Nat.le_refl _, Nat.le_refl _, Nat.le_refl _, Nat.le_refl _⟩

theorem Law.trans {s s1 s2 : St} {a b c d : Nat} (h1 : Law s s1 a b) (h2 : Law s1 s2 c d) :
    Law s s2 (a + c) (b + d) :=
  ⟨h2.enc.trans h1.enc, h2.key.trans h1.key, h2.fr.trans h1.fr, Nat.le_trans h2.sbm h1.sbm,
    Nat.le_trans h2.bys h1.bys, Nat.le_trans h2.ca (Nat.add_assoc .. ▸ Nat.add_le_add_right h1.ca c),
    Nat.le_trans h2.al (Nat.add_assoc .. ▸ Nat.add_le_add_right h1.al d)⟩

theorem Law.mono {s s' : St} {a b c d : Nat} (h : Law s s' a b) (hc : a ≤ c) (hd : b ≤ d) : Law s s' c d :=
  ⟨h.enc, h.key, h.fr, h.sbm, h.bys, Nat.le_trans h.ca (Nat.add_le_add_left hc _),
    Nat.le_trans h.al (Nat.add_le_add_left hd _)⟩

structure CapLaw (c : Nat) (s s' : St) : Prop where
  need : s'.m.need ≤ max s.m.need c
  held : s'.m.held ≤ max s.m.held c

theorem CapLaw.refl (c : Nat) (s : St) : CapLaw c s s := ⟨Nat.le_max_left _ _, Nat.le_max_left _ _⟩

theorem CapLaw.trans {c : Nat} {s s1 s2 : St} (h1 : CapLaw c s s1) (h2 : CapLaw c s1 s2) : CapLaw c s s2 :=
  ⟨Nat.le_trans h2.need (Nat.max_le.mpr ⟨h1.need, Nat.le_max_right _ _⟩),
    Nat.le_trans h2.held (Nat.max_le.mpr ⟨h1.held, Nat.le_max_right _ _⟩)⟩

theorem CapLaw.mono {c c' : Nat} {s s' : St} (h : CapLaw c s s') (hc : c ≤ c') : CapLaw c' s s' :=
  ⟨Nat.le_trans h.need (Nat.max_le.mpr ⟨Nat.le_max_left _ _, Nat.le_trans hc (Nat.le_max_right _ _)⟩),
    Nat.le_trans h.held (Nat.max_le.mpr ⟨Nat.le_max_left _ _, Nat.le_trans hc (Nat.le_max_right _ _)⟩)⟩

theorem CapLaw.weaken0 {c : Nat} {s s' : St} (h : 0 < c → CapLaw (max c 8) s s') (hc : 0 < c) : CapLaw (max c 8) s s' := h hc

structure EnsureFacts (n : Nat) (s : St) (r : Except Err Unit) (s' : St) : Prop where
  law : Law s s' 0 0
  conserve : s'.bl + s'.sb = s.bl + s.sb
  calls : s'.m.calls = s.m.calls
  held : s'.m.held = s.m.held
  need : s'.m.need = max s.m.need n
  okLen : r = .ok () → n ≤ s'.bl
  errs : r = .ok () ∨ r = .error .eof ∨ r = .error .eom
  suffix : ∃ k, s'.d.src = s.d.src.drop k
  bound : ∀ F, FramesLe F s.d.src → s'.bl ≤ max s.bl (n + F)

theorem ensure_facts (n : Nat) (s : St) : Outcome (ensure n s) (EnsureFacts n s) := by
  unfold ensure
  generalize hp : pull n s.d.buf s.d.isEOM s.d.src { s.m with need := max s.m.need n } = pr
  obtain ⟨ok, d1, m1⟩ := pr
  obtain ⟨fr, al, sbm, conserve, calls, held, need, suffix, bound⟩ := pull_spec hp
  dsimp only at fr al conserve calls held need
  have common : ∀ r : Except Err Unit, (r = .ok () → n ≤ d1.buf.length) →
      (r = .ok () ∨ r = .error .eof ∨ r = .error .eom) → EnsureFacts n s r { s with d := d1, m := m1 } := fun r hok herr =>
    ⟨⟨rfl, rfl, fr, sbm, Nat.le_of_eq conserve,
      by simp only [St.sb, St.bl, Nat.add_zero, Nat.add_assoc, calls, conserve, Nat.le_refl],
      by simp only [St.sb, St.bl]; omega⟩, conserve, calls, held, need, hok, herr, suffix, bound⟩
  cases ok with
  | false => exact common _ nofun (.inr (.inl rfl))
  | true =>
    dsimp only
    split
    next hl => exact common _ (fun _ => by simpa [lenGe_eq_decide] using hl) (.inl rfl)
    next => exact common _ nofun (.inr (.inr rfl))

theorem EnsureFacts.capLaw {n : Nat} {s s' : St} {r} (h : EnsureFacts n s r s') : CapLaw n s s' :=
  ⟨Nat.le_of_eq h.need, h.held ▸ Nat.le_max_left _ _⟩

theorem EnsureFacts.np {n : Nat} {s s' : St} {r} (h : EnsureFacts n s r s') : r ≠ .error .panic := by
  rcases h.errs with h | h | h <;> rw [h] <;> nofun

theorem Law.consume {s s1 s2 : St} {kc ka : Nat} (l : Law s s1 kc ka) (k a : Nat)
    (henc : s2.enc = s1.enc) (hkey : s2.key = s1.key) (hfr : s2.m.frames = s1.m.frames)
    (hsrc : s2.d.src = s1.d.src) (hcalls : s2.m.calls = s1.m.calls)
    (hbl : s2.bl + k = s1.bl) (hal : s2.m.alloc = s1.m.alloc + a) (ha : a ≤ k) : Law s s2 kc ka := by
  have hsb : s2.sb = s1.sb := congrArg srcBytes hsrc
  exact l.trans (c := 0) (d := 0) ⟨henc, hkey, by rw [hfr, St.nsrc, St.nsrc, hsrc], Nat.le_of_eq hsb,
    by simp +arith only [hsb, ← hbl], by simp +arith only [hcalls, hsb, ← hbl], by simp +arith only [hal, hsb, ← hbl, ha]⟩

structure Quiet (c : Nat) (s s' : St) : Prop where
  law : Law s s' 0 0
  cap : CapLaw c s s'
  calls : s'.m.calls = s.m.calls

theorem Quiet.refl (c : Nat) (s : St) : Quiet c s s := ⟨.refl s, .refl c s, rfl⟩

theorem Quiet.trans {c : Nat} {s s1 s2 : St} (a : Quiet c s s1) (b : Quiet c s1 s2) : Quiet c s s2 :=
  ⟨a.law.trans b.law, a.cap.trans b.cap, b.calls.trans a.calls⟩

theorem Quiet.mono {c c' : Nat} {s s' : St} (a : Quiet c s s') (h : c ≤ c') : Quiet c' s s' :=
  ⟨a.law, a.cap.mono h, a.calls⟩

theorem EnsureFacts.quiet {n : Nat} {s s' : St} {r} (ef : EnsureFacts n s r s') : Quiet n s s' :=
  ⟨ef.law, ef.capLaw, ef.calls⟩

/-- `k` bytes leave the buffer, `b` stays; `a ≤ k` of them are copied out (allocated for), `h` bounds the
    value held. The states of the model's readers are of this form by unfolding `setBuf`, `addAlloc`, `hold`. -/
theorem Quiet.take (s : St) {b : Bytes} (k a h : Nat) {hd : Nat} (hbl : b.length + k = s.bl) (ha : a ≤ k)
    (hh : hd ≤ max s.m.held h) :
    Quiet h s { s with d := { s.d with buf := b }, m := { s.m with alloc := s.m.alloc + a, held := hd } } ∧
    b.length + s.sb + k = s.bl + s.sb :=
  ⟨⟨(Law.refl s).consume k a rfl rfl rfl rfl rfl hbl rfl ha, ⟨Nat.le_max_left _ _, hh⟩, rfl⟩,
    by rw [← hbl, Nat.add_right_comm]⟩

theorem drop_bl (s : St) (k : Nat) (hk : k ≤ s.bl) : (s.d.buf.drop k).length + k = s.bl := by
  rw [List.length_drop]; exact Nat.sub_add_cancel hk

theorem Quiet.drop (s : St) (k : Nat) (hk : k ≤ s.bl) :
    Quiet k s (((s.setBuf (s.d.buf.drop k)).addAlloc k).hold k) ∧
    (((s.setBuf (s.d.buf.drop k)).addAlloc k).hold k).bl + (((s.setBuf (s.d.buf.drop k)).addAlloc k).hold k).sb + k =
      s.bl + s.sb :=
  Quiet.take s k k k (drop_bl s k hk) (Nat.le_refl _) (Nat.le_refl _)

theorem Quiet.byte {s1 : St} {c : UInt8} {rest : Bytes} (hb : s1.d.buf = c :: rest) :
    Quiet 1 s1 (s1.setBuf rest) ∧ (s1.setBuf rest).bl + (s1.setBuf rest).sb + 1 = s1.bl + s1.sb :=
  Quiet.take s1 1 0 1 (by simp [St.bl, hb]) (Nat.zero_le _) (Nat.le_max_left _ _)

theorem pull_of_buffered (n : Nat) (buf : Bytes) (eom : Bool) (src : List OutFrame) (m : Meter) (h : n ≤ buf.length) :
    pull n buf eom src m = (true, ⟨buf, eom, src⟩, m) := by
  cases src <;> simp [pull, lenGe_eq_decide, h]

theorem ensure_of_buffered (n : Nat) (s : St) (h : n ≤ s.d.buf.length) :
    ensure n s = (.ok (), { s with m := { s.m with need := max s.m.need n } }) := by
  unfold ensure
  rw [pull_of_buffered n _ _ _ _ h]
  simp [lenGe_eq_decide, h]

/-- One round of a byte loop: `ensure 1`, then the first byte leaves the buffer. It is dropped, or kept
    (copied out) in a value that is `h` long with it. -/
theorem byte_round (s : St) : ∃ s1, Quiet 1 s s1 ∧ s1.bl + s1.sb = s.bl + s.sb ∧
    (ensure 1 s = (.error .eof, s1) ∨ (ensure 1 s = (.error .eom, s1) ∧ s.bl = 0) ∨
      ∃ c rest, ensure 1 s = (.ok (), s1) ∧ s1.d.buf = c :: rest ∧ rest.length + s1.sb + 1 = s.bl + s.sb ∧
        Quiet 1 s (s1.setBuf rest) ∧ ∀ h, 0 < h → Quiet h s (((s1.setBuf rest).addAlloc 1).hold h)) := by
  rcases hx : ensure 1 s with ⟨r, s1⟩
  have ef := (ensure_facts 1 s).of_eq hx
  refine ⟨s1, ef.quiet, ef.conserve, ?_⟩
  obtain rfl | rfl | rfl := ef.errs
  · have := ef.okLen rfl
    cases hb : s1.d.buf with
    | nil => simp [St.bl, hb] at this
    | cons c rest =>
      exact .inr (.inr ⟨c, rest, rfl, rfl, (Quiet.byte hb).2.trans ef.conserve, ef.quiet.trans (Quiet.byte hb).1, fun h hh =>
        (ef.quiet.mono hh).trans (Quiet.take _ 1 1 h (congrArg List.length hb).symm (Nat.le_refl _) (Nat.le_refl _)).1⟩)
  · exact .inl rfl
  · refine .inr (.inl ⟨rfl, Nat.eq_zero_of_not_pos fun hpos => ?_⟩)
    rw [ensure_of_buffered 1 s hpos] at hx
    cases hx

/-- `most`: at most `c` bytes are consumed, also on failure; `took`: exactly `c` on success -/
structure ReadFacts {α : Type} (c : Nat) (s : St) (r : Except Err α) (s' : St) : Prop where
  quiet : Quiet c s s'
  np : r ≠ .error .panic
  most : s.bl + s.sb ≤ s'.bl + s'.sb + c
  took : ∀ v, r = .ok v → s'.bl + s'.sb + c = s.bl + s.sb

theorem ReadFacts.refl {α : Type} (s : St) (v : α) : ReadFacts 0 s (.ok v) s :=
  ⟨.refl 0 s, np_ok _, Nat.le_refl _, fun _ _ => rfl⟩

theorem EnsureFacts.err {α : Type} {n : Nat} {s s' : St} {e : Err} (ef : EnsureFacts n s (.error e) s') :
    ReadFacts (α := α) n s (.error e) s' :=
  ⟨ef.quiet, np_cast ef.np, ef.conserve ▸ Nat.le_add_right _ _, nofun⟩

theorem EnsureFacts.read {α : Type} {n : Nat} {s s1 s2 : St} (ef : EnsureFacts n s (.ok ()) s1) (v : α)
    (q : Quiet n s1 s2 ∧ s2.bl + s2.sb + n = s1.bl + s1.sb) : ReadFacts n s (.ok v) s2 :=
  ⟨ef.quiet.trans q.1, np_ok _, Nat.le_of_eq (ef.conserve ▸ q.2.symm), fun _ _ => ef.conserve ▸ q.2⟩

theorem ReadFacts.map {α β : Type} {c : Nat} {s s' : St} {r : Except Err α} (f : ReadFacts c s r s') (g : α → β) :
    ReadFacts c s (r.map g) s' := by
  cases r with
  | error e => exact ⟨f.quiet, np_cast f.np, f.most, nofun⟩
  | ok v => exact ⟨f.quiet, np_ok _, f.most, fun _ _ => f.took v rfl⟩

theorem getChar_facts (s : St) : Outcome (getChar s) (ReadFacts 1 s) := by
  unfold getChar
  split
  next e s1 h => exact ((ensure_facts 1 s).of_eq h).err
  next s1 h =>
    have ef := (ensure_facts 1 s).of_eq h
    split
    next c rest hb => exact ef.read c (Quiet.byte hb)
    next hb =>
      have := ef.okLen rfl
      simp [St.bl, hb] at this

theorem getInt_facts (s : St) : Outcome (getInt s) (ReadFacts 8 s) := by
  unfold getInt
  split
  next e s1 h => exact ((ensure_facts 8 s).of_eq h).err
  next s1 h =>
    have ef := (ensure_facts 8 s).of_eq h
    exact ef.read _ (Quiet.take s1 8 8 8 (drop_bl s1 8 (ef.okLen rfl)) (Nat.le_refl _) (Nat.le_max_left _ _))

theorem getInt32_facts (s : St) : Outcome (getInt32 s) (ReadFacts 8 s) := by
  unfold getInt32
  split
  next e s1 h => exact ((getInt_facts s).of_eq h).map toI32
  next v s1 h => exact ((getInt_facts s).of_eq h).map toI32

theorem getBytes_facts (n : Int) (s : St) : Outcome (getBytes n s) (ReadFacts n.toNat s) := by
  unfold getBytes
  refine .ite (fun hn => ?_) fun _ => ?_
  · rw [Int.toNat_of_nonpos hn]
    exact .refl s _
  split
  next e s1 h => exact ((ensure_facts _ s).of_eq h).err
  next s1 h =>
    have ef := (ensure_facts _ s).of_eq h
    exact ef.read _ (Quiet.drop s1 _ (ef.okLen rfl))

/-- what makes a round of a counted loop pay for itself -/
def Progress {α : Type} (s : St) (r : Except Err α) (s' : St) : Prop :=
  0 < s.bl → ∀ v, r = .ok v → s'.bl + s'.sb + 1 ≤ s.bl + s.sb

theorem cstr_facts : ∀ (fuel : Nat) (s : St) (acc : Bytes) (k : Nat),
    Outcome (cstr fuel s acc k) fun r s' => Quiet (k + fuel) s s' ∧ r ≠ .error .panic ∧
      (∀ v, r = .ok v → s'.bl + s'.sb + v.length ≤ s.bl + s.sb + acc.length) ∧ Progress s r s' := by
  intro fuel
  induction fuel with
  | zero => intro s acc k; exact ⟨.refl _ s, np_of_ne nofun, nofun, fun _ => nofun⟩
  | succ fuel ih =>
    intro s acc k
    have h1 : 1 ≤ k + (fuel + 1) := Nat.le_add_left ..
    obtain ⟨s1, q1, hc1, he | ⟨he, h0⟩ | ⟨c, rest, he, hb, hc, q2, kept⟩⟩ := byte_round s
    · simp only [Outcome, cstr, he]
      exact ⟨q1.mono h1, np_of_ne nofun, nofun, fun _ => nofun⟩
    · simp only [Outcome, cstr, he]
      exact ⟨q1.mono h1, np_ok _, fun v hv => by cases hv; rw [List.length_reverse, hc1]; exact Nat.le_refl _,
        fun hp => absurd h0 (Nat.ne_of_gt hp)⟩
    · simp only [Outcome, cstr, he, hb]
      split
      · exact ⟨q2.mono h1, np_ok _,
          fun v hv => by cases hv; rw [List.length_reverse]; exact Nat.add_le_add_right q2.law.bys _,
          fun _ _ _ => Nat.le_of_eq hc⟩
      · obtain ⟨q3, n3, v3, _⟩ := ih (((s1.setBuf rest).addAlloc 1).hold (k + 1)) (c :: acc) (k + 1)
        refine ⟨((kept (k + 1) k.succ_pos).mono (Nat.add_le_add_left (Nat.le_add_left ..) k)).trans
          (q3.mono (Nat.le_of_eq (Nat.add_right_comm ..))), n3, fun v hv => ?_,
          fun _ _ _ => hc ▸ Nat.add_le_add_right q3.law.bys 1⟩
        rw [← hc, Nat.add_right_comm _ 1]
        exact v3 v hv

theorem cstrMax_facts (cap : Nat) : ∀ (fuel : Nat) (s : St) (acc : Bytes) (k : Nat), fuel + k = cap → acc.length = k →
    Outcome (cstrMax cap fuel s acc k) fun r s' => Quiet cap s s' ∧ r ≠ .error .panic ∧
      s.bl + s.sb ≤ s'.bl + s'.sb + fuel ∧
      ∀ v, r = .ok v → s'.bl + s'.sb + v.length ≤ s.bl + s.sb + acc.length ∧ v.length ≤ cap := by
  intro fuel
  induction fuel with
  | zero => intro s acc k _ _; exact ⟨.refl _ s, np_of_ne nofun, Nat.le_refl _, nofun⟩
  | succ fuel ih =>
    intro s acc k hfk hacc
    have hk : k + 1 ≤ cap := by omega
    have h1 : 1 ≤ cap := Nat.le_of_add_left_le hk
    obtain ⟨s1, q1, hc1, he | ⟨he, h0⟩ | ⟨c, rest, he, hb, hc, q2, kept⟩⟩ := byte_round s
    · simp only [Outcome, cstrMax, he]
      exact ⟨q1.mono h1, np_of_ne nofun, hc1 ▸ Nat.le_add_right .., nofun⟩
    · simp only [Outcome, cstrMax, he]
      split <;> dsimp only
      · exact ⟨q1.mono h1, np_of_ne nofun, hc1 ▸ Nat.le_add_right .., nofun⟩
      · exact ⟨q1.mono h1, np_ok _, hc1 ▸ Nat.le_add_right ..,
          fun v hv => by cases hv; exact ⟨hc1 ▸ Nat.le_add_right .., Nat.zero_le _⟩⟩
    · simp only [Outcome, cstrMax, he, hb]
      split
      · refine ⟨q2.mono h1, np_ok _, hc ▸ Nat.add_le_add_left (Nat.le_add_left ..) _, fun v hv => ?_⟩
        cases hv
        rw [List.length_reverse]
        exact ⟨Nat.add_le_add_right q2.law.bys _, hacc ▸ Nat.le_of_succ_le hk⟩
      · obtain ⟨q3, n3, m3, v3⟩ := ih _ (c :: acc) (k + 1) ((Nat.add_right_comm ..).trans hfk) (congrArg (· + 1) hacc)
        refine ⟨((kept _ k.succ_pos).mono hk).trans q3, n3, hc ▸ Nat.add_le_add_right m3 1,
          fun v hv => ⟨?_, (v3 v hv).2⟩⟩
        rw [← hc, Nat.add_right_comm _ 1]
        exact (v3 v hv).1

theorem skipC_facts : ∀ (fuel : Nat) (s : St),
    Outcome (skipC fuel s) fun r s' => Quiet 1 s s' ∧ r ≠ .error .panic := by
  intro fuel
  induction fuel with
  | zero => intro s; exact ⟨.refl _ s, np_of_ne nofun⟩
  | succ fuel ih =>
    intro s
    obtain ⟨s1, q1, -, he | ⟨he, -⟩ | ⟨c, rest, he, hb, -, q2, -⟩⟩ := byte_round s
    · simp only [Outcome, skipC, he]; exact ⟨q1, np_of_ne nofun⟩
    · simp only [Outcome, skipC, he]; exact ⟨q1, np_ok _⟩
    · simp only [Outcome, skipC, he, hb]
      split
      · exact ⟨q2, np_ok _⟩
      · exact ⟨q2.trans (ih _).1, (ih _).2⟩

theorem discard_facts : ∀ (fuel n : Nat) (s : St),
    Outcome (discard fuel n s) fun r s' => Quiet 1 s s' ∧ r ≠ .error .panic
  | 0, 0, s | _ + 1, 0, s => ⟨.refl _ s, np_ok _⟩
  | 0, _ + 1, s => ⟨.refl _ s, np_of_ne nofun⟩
  | fuel + 1, n + 1, s => by
    unfold discard
    split
    next e s1 h =>
      have ef := (ensure_facts 1 s).of_eq h
      exact ⟨ef.quiet, ef.np⟩
    next s1 h =>
      have hk := Nat.min_le_left s1.d.buf.length (n + 1)
      generalize min s1.d.buf.length (n + 1) = k at hk ⊢
      obtain ⟨q3, n3⟩ := discard_facts fuel (n + 1 - k) (s1.setBuf (s1.d.buf.drop k))
      have q2 := (Quiet.take s1 k 0 1 (drop_bl s1 k hk) (Nat.zero_le _) (Nat.le_max_left _ _)).1
      exact ⟨(((ensure_facts 1 s).of_eq h).quiet.trans q2).trans q3, n3⟩

theorem skipIsC_facts : ∀ (fuel : Nat) (s : St) (matched : Bool) (rest : Bytes),
    Outcome (skipIsC fuel s matched rest) fun r s' => Quiet 1 s s' ∧ r ≠ .error .panic ∧ Progress s r s' ∧
      (r = .ok true → matched = true ∧ s'.bl + s'.sb + rest.length ≤ s.bl + s.sb) := by
  intro fuel
  induction fuel with
  | zero => intro s m rest; exact ⟨.refl _ s, np_of_ne nofun, fun _ => nofun, nofun⟩
  | succ fuel ih =>
    intro s m rest
    obtain ⟨s1, q1, hc1, he | ⟨he, h0⟩ | ⟨c, tl, he, hb, hc, q2, -⟩⟩ := byte_round s
    · simp only [Outcome, skipIsC, he]; exact ⟨q1, np_of_ne nofun, fun _ => nofun, nofun⟩
    · simp only [Outcome, skipIsC, he]
      refine ⟨q1, np_ok _, fun hp => absurd h0 (Nat.ne_of_gt hp), fun hv => ?_⟩
      simp only [Except.ok.injEq, Bool.and_eq_true, List.isEmpty_iff] at hv
      exact ⟨hv.1, by rw [hv.2]; exact Nat.le_of_eq hc1⟩
    · simp only [Outcome, skipIsC, he, hb]
      -- whatever the loop goes on with, the byte just dropped is accounted for
      have step : ∀ (m' : Bool) (r' : Bytes), (m' = true → m = true ∧ rest.length ≤ r'.length + 1) →
          Outcome (skipIsC fuel (s1.setBuf tl) m' r') fun r s' => Quiet 1 s s' ∧ r ≠ .error .panic ∧ Progress s r s' ∧
            (r = .ok true → m = true ∧ s'.bl + s'.sb + rest.length ≤ s.bl + s.sb) := by
        intro m' r' hm
        obtain ⟨q3, n3, _, t3⟩ := ih (s1.setBuf tl) m' r'
        refine ⟨q2.trans q3, n3, fun _ _ _ => hc ▸ Nat.add_le_add_right q3.law.bys 1, fun hv => ?_⟩
        obtain ⟨hm', hl⟩ := t3 hv
        obtain ⟨h1, h2⟩ := hm hm'
        exact ⟨h1, hc ▸ Nat.le_trans (Nat.add_le_add_left h2 _) (Nat.add_le_add_right hl 1)⟩
      split
      · refine ⟨q2, np_ok _, fun _ _ _ => Nat.le_of_eq hc, fun hv => ?_⟩
        simp only [Except.ok.injEq, Bool.and_eq_true, List.isEmpty_iff] at hv
        exact ⟨hv.1, by rw [hv.2]; exact q2.law.bys⟩
      · split
        next b r =>
          split
          · exact step true r fun _ => ⟨rfl, Nat.le_refl _⟩
          · exact step false (b :: r) nofun
        next => exact step false rest nofun

structure StrFacts (s : St) (r : Except Err Bytes) (s' : St) : Prop where
  law : Law s s' 1 0
  np : r ≠ .error .panic
  calls : s'.m.calls ≤ s.m.calls + 1
  consumed : ∀ v, r = .ok v → s'.bl + s'.sb + v.length ≤ s.bl + s.sb

structure SkipFacts {α : Type} (c : Nat) (s : St) (r : Except Err α) (s' : St) : Prop where
  law : Law s s' 1 0
  np : r ≠ .error .panic
  calls : s'.m.calls ≤ s.m.calls + 1
  cap : CapLaw c s s'

theorem Quiet.skip {α : Type} {c : Nat} {s s' : St} {r : Except Err α} (q : Quiet c s.call s')
    (np : r ≠ .error .panic) : SkipFacts c s r s' := by
  obtain ⟨⟨e, k, f, m, b, ca, a⟩, cp, cl⟩ := q
  refine ⟨⟨e, k, f, m, b, ?_, a⟩, np, Nat.le_of_eq cl, ⟨cp.need, cp.held⟩⟩
  have : s'.m.calls + s'.bl + s'.sb ≤ s.m.calls + 1 + s.bl + s.sb := ca
  rwa [Nat.add_right_comm _ 1, Nat.add_right_comm _ 1] at this

theorem Quiet.str {c : Nat} {s s' : St} {r : Except Err Bytes} (q : Quiet c s.call s') (np : r ≠ .error .panic)
    (hv : ∀ v, r = .ok v → s'.bl + s'.sb + v.length ≤ s.bl + s.sb) : StrFacts s r s' :=
  ⟨(q.skip np).law, np, (q.skip np).calls, hv⟩

theorem decodeEncStr_length (d : Bytes) : (decodeEncStr d).length ≤ d.length := by
  unfold decodeEncStr
  split
  · split
    · exact Nat.zero_le _
    · exact (length_stripTrailingNul _).1
  · exact Nat.le_refl _

theorem getString_facts (s : St) : Outcome (getString s) fun r s' => StrFacts s r s' ∧ Progress s r s' := by
  unfold getString
  refine .ite (fun _ => ?_) fun _ => ?_
  · split
    next e s1 h1 =>
      have f1 := (getInt32_facts s.call).of_eq h1
      exact ⟨f1.quiet.str (np_cast f1.np) nofun, fun _ => nofun⟩
    next len s1 h1 =>
      have f1 := (getInt32_facts s.call).of_eq h1
      have t1 : s1.bl + s1.sb + 8 = s.bl + s.sb := f1.took len rfl
      refine .ite (fun _ => ⟨f1.quiet.str (np_of_ne nofun) nofun, fun _ => nofun⟩) fun _ => ?_
      split
      next e s2 h2 =>
        have f2 := ((ensure_facts _ s1).of_eq h2).err (α := Bytes)
        exact ⟨((f1.quiet.mono (Nat.le_max_left _ _)).trans (f2.quiet.mono (Nat.le_max_right _ _))).str f2.np nofun,
          fun _ => nofun⟩
      next s2 h2 =>
        have ef := (ensure_facts _ s1).of_eq h2
        have f2 := ef.read () (Quiet.drop s2 _ (ef.okLen rfl))
        have t2 := f2.took () rfl
        have := Nat.le_trans (decodeEncStr_length (s2.d.buf.take len.toNat)) (List.length_take_le _ _)
        exact ⟨((f1.quiet.mono (Nat.le_max_left _ _)).trans (f2.quiet.mono (Nat.le_max_right _ _))).str (np_ok _)
          fun v hv => by cases hv; exact t1 ▸ t2 ▸ Nat.le_add_right_of_le (Nat.add_le_add_left this _),
          fun _ _ _ => t1 ▸ Nat.add_le_add (Nat.le.intro t2) (by decide)⟩
  · obtain ⟨q, n, v, pr⟩ := cstr_facts (s.call.bytes + 1) s.call [] 0
    exact ⟨q.str n v, pr⟩

/-- 8: the length prefix of the encrypted mode, a `GetInt` -/
structure StrMaxFacts (cap : Nat) (s : St) (r : Except Err Bytes) (s' : St) : Prop where
  str : StrFacts s r s'
  capLaw : CapLaw (max cap 8) s s'
  resLen : ∀ v, r = .ok v → v.length ≤ cap
  most : s.bl + s.sb ≤ s'.bl + s'.sb + cap + 8

theorem Quiet.strMax {cap : Nat} {s s' : St} {r : Except Err Bytes} (q : Quiet (max cap 8) s.call s')
    (np : r ≠ .error .panic) (most : s.bl + s.sb ≤ s'.bl + s'.sb + cap + 8)
    (hv : ∀ v, r = .ok v → s'.bl + s'.sb + v.length ≤ s.bl + s.sb ∧ v.length ≤ cap) :
    StrMaxFacts cap s r s' :=
  ⟨q.str np fun v h => (hv v h).1, (q.skip np).cap, fun v h => (hv v h).2, most⟩

theorem getStringMax_facts (cap : Nat) (s : St) : Outcome (getStringMax cap s) (StrMaxFacts cap s) := by
  unfold getStringMax
  refine .ite (fun _ => ?_) fun _ => ?_
  · exact ⟨⟨(Law.refl s).mono (Nat.zero_le _) (Nat.le_refl _), np_ok _, Nat.le_succ _,
        fun v hv => by cases hv; exact Nat.le_refl _⟩,
      .refl _ s, fun v hv => by cases hv; exact Nat.zero_le _, Nat.le_add_right_of_le (Nat.le_add_right ..)⟩
  refine .ite (fun _ => ?_) fun _ => ?_
  · split
    next e s1 h1 =>
      have f1 := (getInt32_facts s.call).of_eq h1
      exact (f1.quiet.mono (Nat.le_max_right _ _)).strMax (np_cast f1.np)
        (Nat.le_trans f1.most (Nat.add_le_add_right (Nat.le_add_right ..) 8)) nofun
    next len s1 h1 =>
      have f1 := (getInt32_facts s.call).of_eq h1
      have q1 := f1.quiet.mono (Nat.le_max_right cap 8)
      -- 8 bytes so far; what follows takes at most `min len cap` more
      have most {s' : St} (h : s1.bl + s1.sb ≤ s'.bl + s'.sb + min len.toNat cap) : s.bl + s.sb ≤ s'.bl + s'.sb + cap + 8 :=
        Nat.le_trans f1.most (Nat.add_le_add_right (Nat.le_trans h (Nat.add_le_add_left (Nat.min_le_right ..) _)) 8)
      refine .ite (fun _ => q1.strMax (np_of_ne nofun) (most (Nat.le_add_right ..)) nofun) fun _ => ?_
      dsimp only
      have hm : min len.toNat cap ≤ max cap 8 := Nat.le_trans (Nat.min_le_right ..) (Nat.le_max_left ..)
      split
      next e s2 h2 =>
        have f2 := ((ensure_facts _ s1).of_eq h2).err (α := Bytes)
        exact (q1.trans (f2.quiet.mono hm)).strMax f2.np (most f2.most) nofun
      next s2 h2 =>
        have ef := (ensure_facts _ s1).of_eq h2
        have f2 := ef.read () (Quiet.drop s2 _ (ef.okLen rfl))
        have q2 := q1.trans (f2.quiet.mono hm)
        refine .ite (fun _ => q2.strMax (np_of_ne nofun) (most f2.most) nofun) fun _ => ?_
        refine q2.strMax (np_ok _) (most f2.most) fun v hv => ?_
        cases hv
        have := Nat.le_trans (decodeEncStr_length _) (List.length_take_le (min len.toNat cap) s2.d.buf)
        have t1 : s1.bl + s1.sb + 8 = s.bl + s.sb := f1.took len rfl
        exact ⟨t1 ▸ f2.took () rfl ▸ Nat.le_add_right_of_le (Nat.add_le_add_left this _),
          Nat.le_trans this (Nat.min_le_right ..)⟩
  · obtain ⟨q, n, m, v⟩ := cstrMax_facts cap cap s.call [] 0 (Nat.add_zero _) rfl
    exact (q.mono (Nat.le_max_left _ _)).strMax n (Nat.le_add_right_of_le m) v

theorem skipString_facts (s : St) : Outcome (skipString s) (SkipFacts 8 s) := by
  unfold skipString
  refine .ite (fun _ => ?_) fun _ => ?_
  · split
    next e s1 h1 =>
      have f1 := (getInt32_facts s.call).of_eq h1
      exact f1.quiet.skip (np_cast f1.np)
    next len s1 h1 =>
      obtain ⟨q2, n2⟩ := discard_facts (s1.nsrc + 2) len.toNat s1
      exact (((getInt32_facts s.call).of_eq h1).quiet.trans (q2.mono (by decide))).skip n2
  · obtain ⟨q, n⟩ := skipC_facts (s.call.bytes + 1) s.call
    exact (q.mono (by decide)).skip n

/-- `max 8 (|want| + 1)`: the length prefix, and the `GetBytes` of a string announced as `|want|` or
    `|want| + 1` bytes long (any other is discarded unread). A positive answer means at least
    `|want|` bytes were consumed: in `skipLoop` the marker pays for the secret read that follows it. -/
theorem skipStringIs_facts (want : Bytes) (s : St) :
    Outcome (skipStringIs want s) fun r s' => SkipFacts (max 8 (want.length + 1)) s r s' ∧ Progress s r s' ∧
      (r = .ok true → s'.bl + s'.sb + want.length ≤ s.bl + s.sb) := by
  have h1 : 1 ≤ max 8 (want.length + 1) := Nat.le_trans (by decide) (Nat.le_max_left ..)
  unfold skipStringIs
  refine .ite (fun _ => ?_) fun _ => ?_
  · split
    next e s1 hi =>
      have f1 := (getInt32_facts s.call).of_eq hi
      exact ⟨(f1.quiet.mono (Nat.le_max_left _ _)).skip (np_cast f1.np), fun _ => nofun, nofun⟩
    next len s1 hi =>
      have f1 := (getInt32_facts s.call).of_eq hi
      have q1 := f1.quiet.mono (Nat.le_max_left 8 (want.length + 1))
      have t1 : s1.bl + s1.sb + 8 = s.bl + s.sb := f1.took len rfl
      refine .ite (fun hl => ?_) fun _ => ?_
      · have hlen : want.length ≤ len.toNat ∧ len.toNat ≤ want.length + 1 := by omega
        have hm := Nat.le_trans hlen.2 (Nat.le_max_right 8 _)
        split
        next e s2 h2 =>
          have f2 := (getBytes_facts len s1).of_eq h2
          exact ⟨(q1.trans (f2.quiet.mono hm)).skip (np_cast f2.np), fun _ => nofun, nofun⟩
        next data s2 h2 =>
          have f2 := (getBytes_facts len s1).of_eq h2
          have t2 := f2.took data rfl
          exact ⟨(q1.trans (f2.quiet.mono hm)).skip (np_ok _),
            fun _ _ _ => t1 ▸ Nat.add_le_add (Nat.le.intro t2) (by decide),
            fun _ => t1 ▸ t2 ▸ Nat.le_add_right_of_le (Nat.add_le_add_left hlen.1 _)⟩
      · split
        next e s2 h2 =>
          obtain ⟨q2, n2⟩ := (discard_facts (s1.nsrc + 2) len.toNat s1).of_eq h2
          exact ⟨(q1.trans (q2.mono h1)).skip (np_cast n2), fun _ => nofun, nofun⟩
        next s2 h2 =>
          obtain ⟨q2, -⟩ := (discard_facts (s1.nsrc + 2) len.toNat s1).of_eq h2
          exact ⟨(q1.trans (q2.mono h1)).skip (np_ok _), fun _ _ _ => t1 ▸ Nat.add_le_add q2.law.bys (by decide), nofun⟩
  · obtain ⟨q, n, pr, tr⟩ := skipIsC_facts (s.call.bytes + 1) s.call true want
    exact ⟨(q.mono h1).skip n, pr, fun hv => (tr hv).2⟩

/-- the crypto-for-secret bracket: an operation run with another `enc` flag, the flag then restored -/
theorem Law.bracket {s s2 : St} {e : Bool} {kc ka : Nat} (l : Law { s with enc := e } s2 kc ka) :
    Law s { s2 with enc := s.enc } kc ka :=
  ⟨rfl, l.key, l.fr, l.sbm, l.bys, l.ca, l.al⟩

theorem CapLaw.bracket {s s2 : St} {e : Bool} {c : Nat} (h : CapLaw c { s with enc := e } s2) :
    CapLaw c s { s2 with enc := s.enc } :=
  ⟨h.need, h.held⟩

theorem getSecret_uncapped_facts (s : St) : Outcome (getSecret 0 s) (StrFacts s) :=
  have f := (getString_facts { s with enc := s.enc || s.key }).1
  ⟨f.law.bracket, f.np, f.calls, f.consumed⟩

theorem getSecret_capped_facts (cap : Nat) (s : St) (hc : 0 < cap) : Outcome (getSecret cap s) (StrMaxFacts cap s) := by
  unfold getSecret
  dsimp only
  rw [if_pos hc]
  have f := getStringMax_facts cap { s with enc := s.enc || s.key }
  exact ⟨⟨f.str.law.bracket, f.str.np, f.str.calls, f.str.consumed⟩, f.capLaw.bracket, f.resLen, f.most⟩

theorem skipSecret_facts (s : St) : Outcome (skipSecret s) (SkipFacts 8 s) :=
  have f := skipString_facts { s with enc := s.enc || s.key }
  ⟨f.law.bracket, f.np, f.calls, f.cap.bracket⟩

structure AdStrFacts (cap : Nat) (s : St) (r : Except Err (Bytes × Nat)) (s' : St) : Prop where
  law : Law s s' 1 0
  np : r ≠ .error .panic
  calls : s'.m.calls ≤ s.m.calls + 1
  consumed : ∀ v t, r = .ok (v, t) → s'.bl + s'.sb + v.length ≤ s.bl + s.sb
  capLaw : 0 < cap → CapLaw (max cap 8) s s'
  resLen : 0 < cap → ∀ v t, r = .ok (v, t) → v.length ≤ cap

/-- `adString` and `adSecret` are the same code around two readers: `rd0` when no cap is set, `rdc`
    under what is left of the cap -/
theorem budgeted_facts (rd0 : St → Res Bytes) (rdc : Nat → St → Res Bytes)
    (h0 : ∀ s, Outcome (rd0 s) (StrFacts s)) (hc : ∀ c s, 0 < c → Outcome (rdc c s) (StrMaxFacts c s))
    (cap total : Nat) (s : St) {x : Res (Bytes × Nat)}
    (hx : x = if cap = 0 then
        match rd0 s with
        | (.error e, s1) => (.error e, s1)
        | (.ok v, s1) => (.ok (v, total), s1)
      else if total ≥ cap then (.error .sizeExceeded, s)
      else
        match rdc (cap - total) s with
        | (.error e, s1) => (.error e, s1)
        | (.ok v, s1) => (.ok (v, total + v.length + 1), s1)) : Outcome x (AdStrFacts cap s) := by
  subst hx
  refine .ite (fun h => ?_) fun _ => ?_
  · subst h
    split
    next e s1 h =>
      have f := (h0 s).of_eq h
      exact ⟨f.law, np_cast f.np, f.calls, nofun, nofun, nofun⟩
    next v s1 h =>
      have f := (h0 s).of_eq h
      exact ⟨f.law, np_ok _, f.calls, fun _ _ hw => by cases hw; exact f.consumed v rfl, nofun, nofun⟩
  refine .ite (fun _ => ⟨(Law.refl s).mono (Nat.zero_le _) (Nat.le_refl _), np_of_ne nofun, Nat.le_succ _, nofun,
    fun _ => .refl _ _, fun _ => nofun⟩) fun ht => ?_
  have hpos := Nat.sub_pos_of_lt (Nat.lt_of_not_le ht)
  have cl {s1} (c : CapLaw (max (cap - total) 8) s s1) : CapLaw (max cap 8) s s1 :=
    c.mono (Nat.max_le.mpr ⟨Nat.le_trans (Nat.sub_le ..) (Nat.le_max_left ..), Nat.le_max_right ..⟩)
  split
  next e s1 h =>
    have f := (hc (cap - total) s hpos).of_eq h
    exact ⟨f.str.law, np_cast f.str.np, f.str.calls, nofun, fun _ => cl f.capLaw, fun _ => nofun⟩
  next v s1 h =>
    have f := (hc (cap - total) s hpos).of_eq h
    exact ⟨f.str.law, np_ok _, f.str.calls, fun _ _ hw => by cases hw; exact f.str.consumed v rfl, fun _ => cl f.capLaw,
      fun _ _ _ hw => by cases hw; exact Nat.le_trans (f.resLen v rfl) (Nat.sub_le _ _)⟩

theorem adString_facts (cap total : Nat) (s : St) : Outcome (adString cap total s) (AdStrFacts cap s) :=
  budgeted_facts getString getStringMax (fun s => (getString_facts s).1) (fun c s _ => getStringMax_facts c s) cap total s rfl

theorem adSecret_facts (cap total : Nat) (s : St) : Outcome (adSecret cap total s) (AdStrFacts cap s) :=
  budgeted_facts (getSecret 0) getSecret getSecret_uncapped_facts getSecret_capped_facts cap total s rfl

end Cedar.Decode
