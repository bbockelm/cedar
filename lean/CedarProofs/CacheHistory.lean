/-
  C06 "never revives a dead session", over ALL orderings: operation histories on the SessionCache
  model itself (CedarModel/SessionCache.lean) — every cache method and the three resumption machines
  as one operation type — and the invariant that a session which is absent, or expired as of time
  `t`, stays so under every operation that does not `Store` it again, as long as no operation reads
  a clock earlier than `t`.
-/
import CedarProofs.CacheResume

namespace Cedar.SC

/-- everything that touches a session cache -/
inductive COp
  | store (e : Entry)
  | invalidate (id : Str)
  | sweep (now : Nat)                                   -- InvalidateExpired
  | lookup (now : Nat) (id : Str)                       -- LookupNonExpired (deletes an expired hit)
  | mapCommand (tag addr cmd sid : Str)
  | serverResume (now : Nat) (sid : Str) (want : Bool) (nonce : Nat) (ra : Bool)
  | clientTry (now : Nat) (tag addr cmd : Str) (ans : ServerAnswer) (ra : Bool)
  | clientById (now : Nat) (sid : Str) (ans : ServerAnswer) (ra : Bool)
  | clientStore (tag addr : Str) (e : Entry)            -- storeClientSession after a full handshake

def COp.apply (c : Cache) : COp → Cache
  | .store e => c.store e
  | .invalidate id => c.invalidate id
  | .sweep now => c.invalidateExpired now
  | .lookup now id => (c.lookupNonExpired now id).1
  | .mapCommand tag addr cmd sid => c.mapCommand tag addr cmd sid
  | .serverResume now sid w n ra => (Cedar.SC.serverResume c now sid w n ra).1
  | .clientTry now tag addr cmd ans ra => (Cedar.SC.clientTry c now tag addr cmd ans ra).1
  | .clientById now sid ans ra => (Cedar.SC.clientById c now sid ans ra).1
  | .clientStore tag addr e => Cedar.SC.clientStore c tag addr e

def COp.stores (S : Str) : COp → Bool
  | .store e => e.id == S
  | .clientStore _ _ e => e.id == S
  | _ => false

def COp.time : COp → Option Nat
  | .sweep now => some now
  | .lookup now _ => some now
  | .serverResume now _ _ _ _ => some now
  | .clientTry now _ _ _ _ _ => some now
  | .clientById now _ _ _ => some now
  | _ => none

def Cache.runOps (c : Cache) (ops : List COp) : Cache := ops.foldl COp.apply c

/-- what `Store` maintains; `WFm` (CacheLemmas) is its second half, `C07.WF` that half through `get` -/
def Cache.WF (c : Cache) : Prop := (c.sessions.map (·.1)).Nodup ∧ ∀ p ∈ c.sessions, p.2.id = p.1

def Cache.DeadAt (c : Cache) (S : Str) (t : Nat) : Prop :=
  ∀ e, c.get S = some e → ∃ x, e.expiration = some x ∧ x < t

theorem wf_empty : ({} : Cache).WF := ⟨List.nodup_nil, by intro p hp; cases hp⟩

theorem Cache.WF.wfm {c : Cache} (h : c.WF) : WFm c := fun id e => h.2 (id, e)

theorem wf_get {c : Cache} (h : c.WF) {id : Str} {e : Entry} (hg : c.get id = some e) : e.id = id :=
  h.wfm id e (get_mem hg)

theorem wf_filter {c : Cache} (h : c.WF) (q : Str × Entry → Bool) (m : List (Str × Str)) :
    Cache.WF { sessions := c.sessions.filter q, cmdMap := m } :=
  ⟨(List.filter_sublist.map _).nodup h.1, fun p hp => h.2 p (List.mem_filter.mp hp).1⟩

theorem wf_store {c : Cache} (h : c.WF) (e : Entry) : (c.store e).WF := by
  refine ⟨List.nodup_cons.mpr ⟨?_, (wf_filter h _ []).1⟩, fun p => wfm_store h.wfm e p.1 p.2⟩
  simp [List.mem_map, List.mem_filter]

theorem wf_apply {c : Cache} (h : c.WF) (o : COp) : (o.apply c).WF := by
  have hf := fun q m (_ : m ⊆ c.cmdMap) => wf_filter h q m
  have hr := fun now => resume_preserves (now := now) h hf fun _ _ e _ => wf_store h (e.renew now)
  cases o with
  | store e => exact wf_store h e
  | invalidate id => exact invalidate_preserves hf id
  | sweep now => exact invalidateExpired_preserves hf now
  | lookup now id => exact lookupNonExpired_preserves h hf now id
  | mapCommand tag addr cmd sid => exact h
  | serverResume now sid w n ra => exact (hr now).1 sid w n ra
  | clientTry now tag addr cmd ans ra => exact (hr now).2.1 tag addr cmd ans ra
  | clientById now sid ans ra => exact (hr now).2.2 sid ans ra
  | clientStore tag addr e =>
    rw [COp.apply, Cache.WF, clientStore_sessions]
    exact wf_store (invalidate_preserves hf e.id) _

theorem wf_runOps (ops : List COp) (c : Cache) (h : c.WF) : (c.runOps ops).WF :=
  List.foldlRecOn ops COp.apply h fun _ h o _ => wf_apply h o

theorem Cache.DeadAt.mono {c c' : Cache} {S : Str} {t : Nat} (h : c.DeadAt S t)
    (hg : ∀ e, c'.get S = some e → c.get S = some e) : c'.DeadAt S t :=
  fun e he => h e (hg e he)

/-- this is where one binding per identifier is needed: a filter on the VALUES (the expiry sweep)
    that dropped a newer binding would otherwise uncover an older, live one -/
theorem dead_filter {c : Cache} (hw : c.WF) {S : Str} {t : Nat} (h : c.DeadAt S t)
    (q : Str × Entry → Bool) (m : List (Str × Str)) :
    Cache.DeadAt { sessions := c.sessions.filter q, cmdMap := m } S t :=
  h.mono (fun _ he => lookup_of_mem hw.1 (List.mem_filter.mp (lookup_mem he)).1)

theorem dead_store {c : Cache} {S : Str} {t : Nat} (h : c.DeadAt S t) (e : Entry) (hne : e.id ≠ S) :
    (c.store e).DeadAt S t :=
  h.mono (fun e' he => by rwa [get_store_other c e S (fun h => hne h.symm)] at he)

theorem dead_not_resumable {c : Cache} {S : Str} {t now : Nat} (h : c.DeadAt S t) (ht : t ≤ now) (ra : Bool) :
    c.resumable now ra S = none := by
  refine resumable_eq_none.mpr fun e hg hlive => ?_
  obtain ⟨x, hx, hlt⟩ := h e hg
  rw [expired_iff.mpr ⟨x, hx, Nat.lt_of_lt_of_le hlt ht⟩] at hlive
  cases hlive

theorem resumable_ne_dead {c : Cache} (hw : c.WF) {S sid : Str} {t now : Nat} (h : c.DeadAt S t) (ht : t ≤ now)
    {ra : Bool} {e : Entry} (hr : c.resumable now ra sid = some e) : e.id ≠ S := by
  intro heq
  rw [← wf_get hw (resumable_eq_some.mp hr).1, heq, dead_not_resumable h ht] at hr
  cases hr

theorem dead_apply {c : Cache} (hw : c.WF) {S : Str} {t : Nat} (h : c.DeadAt S t) (o : COp)
    (hno : o.stores S = false) (htime : ∀ n, o.time = some n → t ≤ n) : (o.apply c).DeadAt S t := by
  have hf := fun q m (_ : m ⊆ c.cmdMap) => dead_filter hw h q m
  have hr := fun now (ht : t ≤ now) => resume_preserves (P := (·.DeadAt S t)) h hf fun _ _ e hr =>
    dead_store h (e.renew now) (by rw [renew_eq]; exact resumable_ne_dead (e := e) hw h ht hr)
  cases o with
  | store e => exact dead_store h e (by simpa [COp.stores] using hno)
  | invalidate id => exact invalidate_preserves (P := (·.DeadAt S t)) hf id
  | sweep now => exact invalidateExpired_preserves (P := (·.DeadAt S t)) hf now
  | lookup now id => exact lookupNonExpired_preserves (P := (·.DeadAt S t)) h hf now id
  | mapCommand tag addr cmd sid => exact h
  | serverResume now sid w n ra => exact (hr now (htime now rfl)).1 sid w n ra
  | clientTry now tag addr cmd ans ra => exact (hr now (htime now rfl)).2.1 tag addr cmd ans ra
  | clientById now sid ans ra => exact (hr now (htime now rfl)).2.2 sid ans ra
  | clientStore tag addr e =>
    rw [COp.apply, Cache.DeadAt, Cache.get, clientStore_sessions]
    exact dead_store (invalidate_preserves (P := (·.DeadAt S t)) hf e.id) _ (by simpa [COp.stores] using hno)

theorem dead_runOps (ops : List COp) (c : Cache) (S : Str) (t : Nat) (hw : c.WF) (h : c.DeadAt S t)
    (hno : ∀ o ∈ ops, o.stores S = false) (htime : ∀ o ∈ ops, ∀ n, o.time = some n → t ≤ n) :
    (c.runOps ops).DeadAt S t :=
  (List.foldlRecOn (motive := fun c => c.WF ∧ c.DeadAt S t) ops COp.apply ⟨hw, h⟩ fun _ h o ho =>
    ⟨wf_apply h.1 o, dead_apply h.1 h.2 o (hno o ho) (htime o ho)⟩).2

end Cedar.SC
