/-
  Helper lemmas for C17, parts 1-3: Eraser soundness over the trace semantics, lifting of the
  per-method fact table to arbitrary threads of method calls, the cache as a sequential object,
  the session-id mint and the configuration cell.
-/
import CedarModel.Lockset
import CedarProofs.Util

namespace Cedar.Lockset

section generic
variable {L V : Type}

theorem proj_append (t : Nat) (xs ys : List (Nat × Ev L V)) : proj t (xs ++ ys) = proj t xs ++ proj t ys := by
  simp [proj, List.filter_append]

theorem proj_cons_self (t : Nat) (e : Ev L V) (r : List (Nat × Ev L V)) : proj t ((t, e) :: r) = e :: proj t r := by
  simp [proj]

theorem proj_cons_ne {t u : Nat} (h : u ≠ t) (e : Ev L V) (r : List (Nat × Ev L V)) : proj t ((u, e) :: r) = proj t r := by
  simp [proj, h]

variable [DecidableEq L]

theorem LM.get_del (m : LM L) (l l' : L) : (m.del l).get l' = if l' = l then .none else m.get l' := by
  induction m with
  | nil => simp only [LM.del, LM.get, ite_self]
  | cons p t ih =>
    obtain ⟨k, v⟩ := p
    by_cases hk : k = l
    · subst hk
      simp only [LM.del, if_true, ih, LM.get]
      by_cases hl : l' = k
      · simp only [hl, if_true]
      · simp only [hl, if_false, Ne.symm hl]
    · simp only [LM.del, hk, if_false, LM.get, ih]
      by_cases hk' : k = l'
      · subst hk'; simp only [hk, if_false, if_true]
      · simp only [hk', if_false]

theorem localHeld_append (m : LM L) (xs ys : List (Ev L V)) :
    localHeld m (xs ++ ys) = localHeld (localHeld m xs) ys :=
  List.foldl_append ..

theorem scan_append (g : V → Option L) (m : LM L) (xs ys : List (Ev L V)) :
    scan g m (xs ++ ys) = (scan g m xs && scan g (localHeld m xs) ys) := by
  induction xs generalizing m with
  | nil => simp [scan, localHeld]
  | cons e es ih =>
    simp only [List.cons_append, scan, ih, localHeld, List.foldl_cons, Bool.and_assoc]

theorem scan_mid {g : V → Option L} {m : LM L} {xs ys : List (Ev L V)} {e : Ev L V}
    (h : scan g m (xs ++ e :: ys) = true) : okAccess g (localHeld m xs) e = true := by
  rw [scan_append] at h
  simp only [scan, Bool.and_eq_true] at h
  exact h.2.1

theorem scan_prefix {g : V → Option L} {m : LM L} {xs ys : List (Ev L V)}
    (h : scan g m (xs ++ ys) = true) : scan g m xs = true := by
  rw [scan_append] at h
  simp only [Bool.and_eq_true] at h
  exact h.1

theorem scan_flatten (g : V → Option L) (bodies : List (List (Ev L V)))
    (h : ∀ b ∈ bodies, scan g [] b = true ∧ localHeld [] b = []) :
    scan g [] bodies.flatten = true ∧ localHeld [] bodies.flatten = [] := by
  induction bodies with
  | nil => simp [scan, localHeld]
  | cons b bs ih =>
    have hb := h b (List.mem_cons_self ..)
    have hbs := ih (fun b' hb' => h b' (List.mem_cons_of_mem _ hb'))
    simp only [List.flatten_cons, scan_append, localHeld_append, hb.1, hb.2, hbs.1, hbs.2, Bool.and_self, and_self]

def Ev.effect : Ev L V → Option (L × Mode)
  | .acq l => some (l, .w)
  | .racq l => some (l, .r)
  | .rel l | .rrel l => some (l, .none)
  | .rd _ | .wr _ => none

theorem get_localStep (m : LM L) (e : Ev L V) (l' : L) :
    (localStep m e).get l' = match e.effect with
      | some (l, md) => if l' = l then md else m.get l'
      | none => m.get l' := by
  cases e with
  | rd _ | wr _ => rfl
  | rel l | rrel l => exact LM.get_del m l l'
  | acq l | racq l =>
    simp only [localStep, LM.get, LM.get_del, Ev.effect, eq_comm (a := l)]
    split <;> rfl

theorem Step.eq_set_effect {h h' : Held L} {t : Nat} {e : Ev L V} (hs : Step h (t, e) h') :
    h' = match e.effect with
      | some (l, md) => h.set t l md
      | none => h := by
  cases hs <;> rfl

/-- the invariant the guards of `Step` maintain -/
def Excl (h : Held L) : Prop := ∀ t u l, h t l = .w → u ≠ t → h u l = .none

omit [DecidableEq L] in
theorem Excl.init : Excl (Held.init : Held L) :=
  fun _ _ _ h => nomatch h

theorem Excl.set {h : Held L} (hx : Excl h) (t : Nat) (l : L) (md : Mode)
    (hw : md = .w → ∀ u, u ≠ t → h u l = .none) (hr : md ≠ .none → ∀ u, h u l ≠ .w) : Excl (h.set t l md) := by
  intro a b l' ha hb
  simp only [Held.set] at ha ⊢
  by_cases c1 : a = t ∧ l' = l
  · obtain ⟨rfl, rfl⟩ := c1
    simp only [and_self, if_true] at ha
    simp [hb, hw ha b hb]
  · simp only [c1, if_false] at ha
    by_cases c2 : b = t ∧ l' = l
    · obtain ⟨rfl, rfl⟩ := c2
      simp only [and_self, if_true]
      exact Decidable.byContradiction fun hm => hr hm a ha
    · simp only [c2, if_false]; exact hx a b l' ha hb

theorem Excl.step {h h' : Held L} {e : Nat × Ev L V} (hx : Excl h) (hs : Step h e h') : Excl h' := by
  cases hs with
  | acq hfree => exact hx.set _ _ _ (fun _ u _ => hfree u) (fun _ u => by rw [hfree u]; decide)
  | racq hnow _ => exact hx.set _ _ _ nofun (fun _ => hnow)
  | rel _ => exact hx.set _ _ _ nofun (absurd rfl)
  | rrel _ => exact hx.set _ _ _ nofun (absurd rfl)
  | rd => exact hx
  | wr => exact hx

theorem Excl.run {h h' : Held L} {r : List (Nat × Ev L V)} (hx : Excl h) (hr : Run h r h') : Excl h' := by
  induction hr with
  | nil => exact hx
  | cons hs _ ih => exact ih (hx.step hs)

theorem Run.split {h h' : Held L} (pre rest : List (Nat × Ev L V)) (hr : Run h (pre ++ rest) h') :
    ∃ hm, Run h pre hm ∧ Run hm rest h' := by
  induction pre generalizing h with
  | nil => exact ⟨h, .nil, hr⟩
  | cons e es ih =>
    cases hr with
    | cons hs hrest =>
      obtain ⟨hm, h1, h2⟩ := ih hrest
      exact ⟨hm, .cons hs h1, h2⟩

theorem Run.row_eq_localHeld {h h' : Held L} {r : List (Nat × Ev L V)} (hr : Run h r h') (t : Nat) (m : LM L)
    (hm : ∀ l, h t l = m.get l) : ∀ l, h' t l = (localHeld m (proj t r)).get l := by
  induction hr generalizing m with
  | nil => simpa [proj, localHeld] using hm
  | @cons h0 h1 h2 e es hs _ ih =>
    obtain ⟨u, ev⟩ := e
    have h1e := hs.eq_set_effect
    by_cases hu : u = t
    · subst hu
      rw [proj_cons_self]
      refine ih (localStep m ev) fun l => ?_
      rw [get_localStep, h1e]
      cases ev.effect with
      | none => exact hm l
      | some p => simp only [Held.set, true_and, hm]
    · rw [proj_cons_ne hu]
      refine ih m fun l => ?_
      rw [h1e]
      cases ev.effect with
      | none => exact hm l
      | some p => simp only [Held.set, Ne.symm hu, false_and, if_false, hm]

theorem step_access_same {h h' : Held L} {t : Nat} {e : Ev L V} (hs : Step h (t, e) h')
    (ha : (∃ x, e = .rd x) ∨ (∃ x, e = .wr x)) : h' = h := by
  obtain ⟨x, rfl⟩ | ⟨x, rfl⟩ := ha <;> exact hs.eq_set_effect

theorem okAccess_wr {g : V → Option L} {m : LM L} {x : V} (h : okAccess g m (.wr x) = true) :
    ∃ l, g x = some l ∧ m.get l = .w := by
  simp only [okAccess] at h
  split at h
  · cases h
  · exact ⟨_, by assumption, beq_iff_eq.mp h⟩

theorem okAccess_held {g : V → Option L} {m : LM L} {x : V} {e : Ev L V} (he : e = .wr x ∨ e = .rd x)
    (h : okAccess g m e = true) {l : L} (hg : g x = some l) : m.get l ≠ .none := by
  rcases he with rfl | rfl <;> simp only [okAccess, hg] at h
  · rw [beq_iff_eq.mp h]; decide
  · exact bne_iff_ne.mp h

/-- the writer holds the guard exclusively, so the other thread, which holds it in some mode, cannot -/
theorem Excl.no_conflict {h : Held L} (hx : Excl h) {m : Nat → LM L} (hm : ∀ t l, h t l = (m t).get l)
    {g : V → Option L} {a b : Nat × Ev L V} {x : V} (ha : okAccess g (m a.1) a.2 = true)
    (hb : okAccess g (m b.1) b.2 = true) : ¬ Conflict a b x := by
  have key : ∀ {w o : Nat × Ev L V}, o.1 ≠ w.1 → w.2 = .wr x → o.2 = .wr x ∨ o.2 = .rd x →
      okAccess g (m w.1) w.2 = true → okAccess g (m o.1) o.2 = true → False := by
    intro w o hn hw he hsw hso
    obtain ⟨l, hg, hwl⟩ := okAccess_wr (hw ▸ hsw)
    exact okAccess_held he hso hg ((hm o.1 l).symm.trans (hx w.1 o.1 l ((hm w.1 l).trans hwl) hn))
  rintro ⟨hne, ⟨hw, he⟩ | ⟨hr, hw⟩⟩
  · exact key (Ne.symm hne) hw he ha hb
  · exact key hne hw (.inr hr) hb ha

/-- `C17.lockset_sound` from any lock state with exclusion (there: nothing held) -/
theorem lockset_sound_from (g : V → Option L) (m0 : Nat → LM L) (r : List (Nat × Ev L V)) (h0 h : Held L)
    (hx : Excl h0) (hm0 : ∀ t l, h0 t l = (m0 t).get l) (hrun : Run h0 r h)
    (hdisc : ∀ t, scan g (m0 t) (proj t r) = true) : ¬ HasRace r := by
  rintro ⟨pre, ⟨ta, ea⟩, ⟨tb, eb⟩, post, x, rfl, hc⟩
  -- the state after `pre` has exclusion, and its rows are what the threads' scans have reached
  obtain ⟨hm, hpre, -⟩ := Run.split pre _ hrun
  refine (hx.run hpre).no_conflict (g := g) (fun t => hpre.row_eq_localHeld t (m0 t) (hm0 t)) ?_ ?_ hc
  · have := hdisc ta
    rw [proj_append, proj_cons_self] at this
    exact scan_mid this
  · have := hdisc tb
    rw [proj_append, proj_cons_ne hc.1, proj_cons_self] at this
    exact scan_mid this

end generic

/-- a symbolic lock set instantiated as `instEv` instantiates events -/
def mapLM (ρ : String → Nat) (m : LM String) : LM RL := m.map (fun p => ((p.1, ρ p.1), p.2))

theorem lock_eq_inst (ρ : String → Nat) (k ty : String) : ((k, ρ k) = (ty, ρ ty)) = (k = ty) :=
  propext ⟨fun e => (Prod.mk.inj e).1, fun e => e ▸ rfl⟩

theorem mapLM_get (ρ : String → Nat) (m : LM String) (ty : String) : (mapLM ρ m).get (ty, ρ ty) = m.get ty := by
  induction m with
  | nil => rfl
  | cons p t ih =>
    rw [mapLM, List.map_cons, LM.get, LM.get, ← mapLM, ih]
    exact ite_cond_congr (lock_eq_inst ρ p.1 ty)

theorem mapLM_del (ρ : String → Nat) (m : LM String) (ty : String) : (mapLM ρ m).del (ty, ρ ty) = mapLM ρ (m.del ty) := by
  induction m with
  | nil => rfl
  | cons p t ih =>
    rw [mapLM, List.map_cons, LM.del, LM.del, ← mapLM, ih, ite_cond_congr (lock_eq_inst ρ p.1 ty)]
    split <;> rfl

theorem localStep_inst (ρ : String → Nat) (m : LM String) (e : SEv) :
    localStep (mapLM ρ m) (instEv ρ e) = mapLM ρ (localStep m e) := by
  cases e with
  | acq ty | racq ty => simp only [instEv, localStep, mapLM_del]; rfl
  | rel ty | rrel ty => simp only [instEv, localStep, mapLM_del]
  | rd x | wr x => rfl

theorem fieldGuard_same (ty f ty' : String) (h : fieldGuard (ty, f) = some ty') : ty' = ty := by
  unfold fieldGuard at h
  -- one goal per row of the declared policy, with `(ty, f) = (owner, field)` in the context and
  -- `h : some owner = some ty'`; the default row has `h : none = some ty'`
  split at h
  all_goals cases h
  all_goals exact (congrArg Prod.fst ‹(ty, f) = _›).symm

theorem rtGuard_inst (ρ : String → Nat) (ty f : String) :
    rtGuard (ty, ρ ty, f) = (fieldGuard (ty, f)).map fun ty' => (ty', ρ ty') := by
  unfold rtGuard
  cases hg : fieldGuard (ty, f) with
  | none => rfl
  | some ty' => rw [fieldGuard_same ty f ty' hg]; rfl

theorem okAccess_inst (ρ : String → Nat) (m : LM String) (e : SEv) (h : okAccess fieldGuard m e = true) :
    okAccess rtGuard (mapLM ρ m) (instEv ρ e) = true := by
  cases e with
  | rd x | wr x =>
    obtain ⟨ty, f⟩ := x
    revert h
    simp only [okAccess, instEv, rtGuard_inst]
    cases fieldGuard (ty, f) with
    | none => exact id
    | some ty' => simp only [Option.map_some, mapLM_get]; exact id
  | _ => rfl

theorem localHeld_inst (ρ : String → Nat) (m : LM String) (b : List SEv) :
    localHeld (mapLM ρ m) (b.map (instEv ρ)) = mapLM ρ (localHeld m b) := by
  induction b generalizing m with
  | nil => rfl
  | cons e es ih => rw [List.map_cons, localHeld, List.foldl_cons, localStep_inst]; exact ih _

theorem scan_inst (ρ : String → Nat) (m : LM String) (b : List SEv) (h : scan fieldGuard m b = true) :
    scan rtGuard (mapLM ρ m) (b.map (instEv ρ)) = true := by
  induction b generalizing m with
  | nil => rfl
  | cons e es ih =>
    rw [scan, Bool.and_eq_true] at h
    rw [List.map_cons, scan, okAccess_inst ρ m e h.1, localStep_inst, ih _ h.2]
    rfl

theorem lookupBody_ok (tbl : List (String × List (String × String × String × String))) (htbl : tableOK tbl = true)
    (m : String) : bodyOK (lookupBody tbl m) = true := by
  unfold lookupBody
  cases hf : tbl.find? (fun p => p.1 == m) with
  | none => rfl
  | some p =>
    have hp : p ∈ tbl := List.mem_of_find?_eq_some hf
    simp only [tableOK, List.all_eq_true, Bool.and_eq_true] at htbl
    exact (htbl p hp).2

theorem callEvents_ok (tbl : List (String × List (String × String × String × String))) (htbl : tableOK tbl = true)
    (c : Call) : scan rtGuard [] (callEvents tbl c) = true ∧ localHeld [] (callEvents tbl c) = [] := by
  have hb := lookupBody_ok tbl htbl c.method
  rw [bodyOK, Bool.and_eq_true, List.isEmpty_iff] at hb
  exact ⟨scan_inst c.objs [] _ hb.1, (localHeld_inst c.objs [] _).trans (congrArg (mapLM c.objs) hb.2)⟩

/-- `C17.cache_discipline` for any table that passes `tableOK` -/
theorem table_race_free (tbl : List (String × List (String × String × String × String))) (htbl : tableOK tbl = true)
    (progs : Nat → List Call) (r : List (Nat × Ev RL RV)) (h : Held RL) (hrun : Run Held.init r h)
    (hprog : ∀ t, ∃ rest, proj t r ++ rest = ((progs t).map (callEvents tbl)).flatten) : ¬ HasRace r := by
  refine lockset_sound_from rtGuard (fun _ => []) r _ h Excl.init (fun _ _ => rfl) hrun fun t => ?_
  obtain ⟨rest, hrest⟩ := hprog t
  have := (scan_flatten rtGuard ((progs t).map (callEvents tbl))
    (List.forall_mem_map.mpr fun c _ => callEvents_ok tbl htbl c)).1
  exact scan_prefix (hrest ▸ this)

/-!
`Lin.CC` / `Lin.apply` (CedarModel/Lockset.lean) and `SC.Cache` (CedarModel/SessionCache.lean) both
transcribe `security.SessionCache`, and no theorem relates them. `Lin` keeps what the order of
concurrent calls can change — which entry object is filed under which session id, which command key
leads to which id, on which side of the clock an object's expiration lies — for all eleven methods,
with their results. `SC.Cache` keeps the entries' contents and the time in seconds, for the methods
the handshake calls. -/
namespace Lin

theorem aget_eq_lookup (l : List (Nat × Nat)) (k : Nat) : aget l k = l.lookup k := by
  induction l with
  | nil => rfl
  | cons p t ih =>
    obtain ⟨a, b⟩ := p
    rw [aget, List.lookup_cons, ih]
    by_cases h : a = k
    · rw [if_pos h, beq_iff_eq.mpr h.symm]
    · rw [if_neg h, beq_eq_false_iff_ne.mpr (Ne.symm h)]

/-- in the spelling of `Cedar.lookup_erase` -/
theorem adel_eq_filter (l : List (Nat × Nat)) (k : Nat) : adel l k = l.filter (fun p => decide (p.1 ≠ k)) := by
  induction l with
  | nil => rfl
  | cons p t ih =>
    rw [adel, ih, List.filter_cons]
    simp only [decide_eq_true_eq, ne_eq, ite_not]

theorem mem_of_aget {l : List (Nat × Nat)} {k u : Nat} (h : aget l k = some u) : (k, u) ∈ l :=
  lookup_mem (aget_eq_lookup l k ▸ h)

theorem aget_eq_none_iff {l : List (Nat × Nat)} {k : Nat} : aget l k = none ↔ ∀ p ∈ l, p.1 ≠ k := by
  rw [aget_eq_lookup, List.lookup_eq_none_iff]
  exact forall₂_congr fun p _ => bne_iff_ne.trans ne_comm

theorem mem_adel {l : List (Nat × Nat)} {k : Nat} {p : Nat × Nat} : p ∈ adel l k ↔ p ∈ l ∧ p.1 ≠ k := by
  rw [adel_eq_filter, List.mem_filter, decide_eq_true_eq]

/-- only this direction holds: a filter on the values may uncover an older binding of the key -/
theorem aget_filter {q : Nat × Nat → Bool} {l : List (Nat × Nat)} {k u : Nat}
    (hg : aget l k = some u) (hq : q (k, u) = true) : aget (l.filter q) k = some u := by
  obtain ⟨l₁, l₂, rfl, hk⟩ := List.lookup_eq_some_iff.mp (aget_eq_lookup l k ▸ hg)
  rw [aget_eq_lookup, List.filter_append, List.filter_cons_of_pos hq]
  exact List.lookup_eq_some_iff.mpr ⟨_, _, rfl, fun p hp => hk p (List.mem_filter.mp hp).1⟩

/-- entries are filed under their own session id -/
def WF (info : Nat → EntInfo) (c : CC) : Prop := ∀ p ∈ c.sessions, (info p.2).key = p.1

theorem mem_apply_sessions {info : Nat → EntInfo} {c : CC} {o : Op} {p : Nat × Nat}
    (hp : p ∈ (apply info c o).1.sessions) : p ∈ c.sessions ∨ ∃ u, o = .store u ∧ p = ((info u).key, u) := by
  cases o with
  | store u =>
    rcases List.mem_cons.mp hp with rfl | hp
    · exact .inr ⟨u, rfl, rfl⟩
    · exact .inl (mem_adel.mp hp).1
  | lookup k =>
    revert hp; rw [apply]
    cases aget c.sessions k <;> exact .inl
  | lookupNE k =>
    revert hp; rw [apply]
    cases aget c.sessions k with
    | none => exact .inl
    | some u =>
      dsimp only
      split
      · exact fun hp => .inl (mem_adel.mp hp).1
      · exact .inl
  | byCmd ck =>
    revert hp; rw [apply]
    cases aget c.cmds ck with
    | none => exact .inl
    | some k =>
      dsimp only
      cases aget c.sessions k <;> exact .inl
  | invalidate k => exact .inl (mem_adel.mp hp).1
  | gc => exact .inl (List.mem_filter.mp hp).1
  | clear => exact nomatch hp
  | mapCmd _ _ | size | snapshot | dump => exact .inl hp

theorem apply_wf {info : Nat → EntInfo} {c : CC} (hw : WF info c) (o : Op) : WF info (apply info c o).1 := by
  intro p hp
  rcases mem_apply_sessions hp with h | ⟨u, -, rfl⟩
  · exact hw p h
  · rfl

theorem ent_ite_eq_some {info : Nat → EntInfo} {v u : Nat}
    (h : Res.ent (if expired info v then none else some v) = .ent (some u)) : v = u :=
  Option.some.inj (Option.ite_none_left_eq_some.mp (Res.ent.inj h)).2

theorem apply_ent {info : Nat → EntInfo} {c : CC} {o : Op} {u : Nat} (h : (apply info c o).2 = .ent (some u)) :
    ∃ k', aget c.sessions k' = some u := by
  revert h
  cases o with
  | lookup k' =>
    rw [apply]
    cases hg : aget c.sessions k' with
    | none => exact nofun
    | some v => exact fun h => ⟨k', ent_ite_eq_some h ▸ hg⟩
  | lookupNE k' =>
    rw [apply]
    cases hg : aget c.sessions k' with
    | none => exact nofun
    | some v =>
      dsimp only
      by_cases hx : expired info v = true
      · rw [if_pos hx]; exact nofun
      · rw [if_neg hx]; exact fun h => ⟨k', Option.some.inj (Res.ent.inj h) ▸ hg⟩
  | byCmd ck =>
    rw [apply]
    cases aget c.cmds ck with
    | none => exact nofun
    | some k' =>
      dsimp only
      cases hg : aget c.sessions k' with
      | none => exact nofun
      | some v => exact fun h => ⟨k', ent_ite_eq_some h ▸ hg⟩
  | _ => exact nofun

/-- The step of `C17.invalidate_wins`, in the shape `run_induct` takes: whatever entry an operation reports
    is filed, hence under another id than `k`. -/
theorem apply_absent {info : Nat → EntInfo} {c : CC} {k : Nat} {o : Op} (ho : ∀ u, o = .store u → (info u).key ≠ k)
    (h : WF info c ∧ aget c.sessions k = none) :
    (WF info (apply info c o).1 ∧ aget (apply info c o).1.sessions k = none) ∧
      (apply info c o).2.names info k = false := by
  have ha := aget_eq_none_iff.mp h.2
  refine ⟨⟨apply_wf h.1 o, aget_eq_none_iff.mpr fun p hp => ?_⟩, ?_⟩
  · rcases mem_apply_sessions hp with hp | ⟨u, rfl, rfl⟩
    · exact ha p hp
    · exact ho u rfl
  · cases hr : (apply info c o).2 with
    | ent x =>
      cases x with
      | none => rfl
      | some u =>
        obtain ⟨k', hg⟩ := apply_ent hr
        have hm := mem_of_aget hg
        exact beq_eq_false_iff_ne.mpr fun e => ha _ hm ((h.1 _ hm).symm.trans e)
    | _ => rfl

theorem aget_invalidate_self (info : Nat → EntInfo) (c : CC) (k : Nat) :
    aget (apply info c (.invalidate k)).1.sessions k = none :=
  aget_eq_none_iff.mpr fun _ hp => (mem_adel.mp hp).2

theorem run_induct {info : Nat → EntInfo} {P : CC → Prop} {Q : Res → Prop} {ops : List Op}
    (hstep : ∀ c, ∀ o ∈ ops, P c → P (apply info c o).1 ∧ Q (apply info c o).2) {c : CC} (hc : P c) :
    P (run info c ops).1 ∧ ∀ res ∈ (run info c ops).2, Q res := by
  induction ops generalizing c with
  | nil => exact ⟨hc, nofun⟩
  | cons o os ih =>
    obtain ⟨h1, h2⟩ := hstep c o (List.mem_cons_self ..) hc
    obtain ⟨h3, h4⟩ := ih (fun c o' ho' => hstep c o' (List.mem_cons_of_mem _ ho')) h1
    exact ⟨h3, List.forall_mem_cons.mpr ⟨h2, h4⟩⟩

theorem sweep_keeps_live {info : Nat → EntInfo} {c : CC} {k u : Nat} (hg : aget c.sessions k = some u)
    (hx : expired info u = false) : aget (apply info c .gc).1.sessions k = some u :=
  aget_filter (q := fun p => !expired info p.2) hg (by rw [hx]; rfl)

theorem sweep_keeps_live_route {info : Nat → EntInfo} {c : CC} {ck k u : Nat} (hm : (ck, k) ∈ c.cmds)
    (hg : aget c.sessions k = some u) (hx : expired info u = false) : (ck, k) ∈ (apply info c .gc).1.cmds :=
  List.mem_filter.mpr ⟨hm, congrArg Option.isSome (sweep_keeps_live hg hx)⟩

theorem not_store_of_resumeCallsOK {tbl : List (String × String)} (h : resumeCallsOK tbl = true) {o : Op}
    (ho : (tbl.map (·.2)).contains o.method = true) (u : Nat) : o ≠ .store u := by
  rintro rfl
  obtain ⟨p, hp, hs⟩ := List.mem_map.mp (List.contains_iff_mem.mp ho)
  exact bne_iff_ne.mp (List.all_eq_true.mp (Bool.and_eq_true_iff.mp h).2 p hp) hs

end Lin

namespace Mint

theorem run_adds (l : List Step) (h : onlyAdds l) (s : St) (hb : ∀ v ∈ s.out, v ≤ s.ctr) (hn : s.out.Nodup) :
    (∀ v ∈ (run s l).out, v ≤ (run s l).ctr) ∧ (run s l).out.Nodup :=
  List.foldlRecOn (motive := fun s => (∀ v ∈ s.out, v ≤ s.ctr) ∧ s.out.Nodup) l step ⟨hb, hn⟩ fun s hs x hx => by
    obtain ⟨t, rfl⟩ := h x hx
    -- the value handed out is above everything handed out before
    exact ⟨List.forall_mem_cons.mpr ⟨Nat.le_refl _, fun v hv => Nat.le_succ_of_le (hs.1 v hv)⟩,
      List.nodup_cons.mpr ⟨fun hm => Nat.not_succ_le_self _ (hs.1 _ hm), hs.2⟩⟩

end Mint

namespace Cfg

/-- with one configuration copy per connection: a handshake that took its first step has its own
    key in its own cell, one that took both advertised its own key -/
def Inv (s : St) : Prop :=
  ∀ i, (1 ≤ s.pc i → s.cell (i + 1) = some i) ∧ (2 ≤ s.pc i → s.sent i = some i)

theorem inv_init : Inv {} := fun _ => ⟨nofun, nofun⟩

theorem inv_step (s : St) (j : Nat) (h : Inv s) : Inv (step false s j) := by
  intro i
  have hi := h i
  rw [step]
  by_cases h0 : s.pc j = 0
  · -- first step of `j`: its cell gets its key, and no other handshake owns that cell
    rw [if_pos h0]
    by_cases hij : i = j
    · subst hij
      simp only [↓reduceIte, cellOf, Bool.false_eq_true, imp_self, Nat.reduceLeDiff, false_implies, and_self]
    · simpa only [hij, ↓reduceIte, cellOf, Bool.false_eq_true, Nat.add_right_cancel_iff] using hi
  · rw [if_neg h0]
    by_cases h1 : s.pc j = 1
    · -- second step: `j` advertises what its own cell holds
      rw [if_pos h1]
      by_cases hij : i = j
      · subst hij
        simp only [↓reduceIte, cellOf, Bool.false_eq_true, hi.1 (Nat.le_of_eq h1.symm), implies_true, and_self]
      · simpa only [hij, ↓reduceIte] using hi
    · rw [if_neg h1]
      exact hi

theorem inv_run (sched : List Nat) (s : St) (h : Inv s) : Inv (runSched false s sched) :=
  List.foldlRecOn sched (step false) h fun s hs j _ => inv_step s j hs

end Cfg

end Cedar.Lockset
