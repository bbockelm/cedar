/-
  The session cache as a finite map: what `get` finds after each operation, which pairs the two
  association lists hold after `Store` and `storeClientSession`, and that a lookup only ever shrinks
  the cache. `List.lookup` itself: `lookup_insert`, `lookup_erase`, `lookup_mem`, `lookup_of_mem` in Util.
-/
import CedarModel.SessionCache
import CedarProofs.Util

namespace Cedar.SC

theorem expired_iff {e : Entry} {now : Nat} :
    e.expired now = true ↔ ∃ x, e.expiration = some x ∧ x < now := by
  unfold Entry.expired
  cases e.expiration <;> simp

theorem renew_eq (e : Entry) (now : Nat) :
    e.renew now = { e with expiration := if e.lease ≠ 0 then some (now + e.lease) else e.expiration } := by
  unfold Entry.renew; split <;> rfl

theorem get_mem {c : Cache} {id : Str} {e : Entry} (h : c.get id = some e) : (id, e) ∈ c.sessions :=
  lookup_mem h

theorem get_store (c : Cache) (e : Entry) (id : Str) :
    (c.store e).get id = if id = e.id then some e else c.get id :=
  lookup_insert ..

theorem get_store_self (c : Cache) (e : Entry) : (c.store e).get e.id = some e := by
  rw [get_store, if_pos rfl]

theorem get_store_other (c : Cache) (e : Entry) (id : Str) (h : id ≠ e.id) : (c.store e).get id = c.get id := by
  rw [get_store, if_neg h]

theorem mem_store {c : Cache} {e : Entry} {p : Str × Entry} (hp : p ∈ (c.store e).sessions) :
    p = (e.id, e) ∨ (p ∈ c.sessions ∧ p.1 ≠ e.id) := by
  simpa [Cache.store] using hp

/-- the second half of `Cache.WF` (CacheHistory; `Cache.WF.wfm`, `wf_get`); `C07.WF` is it through `get` (by `get_mem`) -/
def WFm (c : Cache) : Prop := ∀ id e, (id, e) ∈ c.sessions → e.id = id

theorem wfm_store {c : Cache} (h : WFm c) (e : Entry) : WFm (c.store e) := by
  intro id x hx
  rcases mem_store hx with heq | ⟨hold, _⟩
  · cases heq; rfl
  · exact h id x hold

theorem get_invalidate (c : Cache) (id id' : Str) :
    (c.invalidate id).get id' = if id' = id then none else c.get id' :=
  lookup_erase ..

theorem get_invalidate_self (c : Cache) (id : Str) : (c.invalidate id).get id = none := by
  rw [get_invalidate, if_pos rfl]

theorem get_invalidate_other (c : Cache) (id id' : Str) (h : id' ≠ id) : (c.invalidate id).get id' = c.get id' := by
  rw [get_invalidate, if_neg h]

theorem get_invalidate_eq_some {c : Cache} {id id' : Str} {e : Entry} :
    (c.invalidate id).get id' = some e ↔ id' ≠ id ∧ c.get id' = some e := by
  rw [get_invalidate]
  exact Option.ite_none_left_eq_some

/-- no hypothesis on `c.get id`: the routes go also when the entry is already gone
    (F-C07-invalidate-after-lookup) -/
theorem invalidate_no_routes (c : Cache) (id : Str) : ∀ p ∈ (c.invalidate id).cmdMap, p.2 ≠ id := by
  intro p hp
  simpa using (List.mem_filter.mp hp).2

theorem lookupNonExpired_snd (c : Cache) (now : Nat) (id : Str) :
    (c.lookupNonExpired now id).2 = (c.get id).filter fun e => !e.expired now := by
  unfold Cache.lookupNonExpired
  cases c.get id with
  | none => rfl
  | some e => cases h : e.expired now <;> simp [h, Option.filter]

theorem get_lookupNonExpired_self (c : Cache) (now : Nat) (id : Str) :
    (c.lookupNonExpired now id).1.get id = (c.lookupNonExpired now id).2 := by
  unfold Cache.lookupNonExpired
  cases hg : c.get id with
  | none => exact hg
  | some e =>
    dsimp only
    split
    · exact (lookup_erase ..).trans (if_pos rfl)
    · exact hg

/-! `Invalidate`, `InvalidateExpired` and the deletion inside `LookupNonExpired` only shrink the cache:
the sessions are filtered, the routes are some of those there were. What survives shrinking (`hf`)
survives the three. -/

theorem invalidate_preserves {P : Cache → Prop} {c : Cache}
    (hf : ∀ q m, m ⊆ c.cmdMap → P ⟨c.sessions.filter q, m⟩) (id : Str) : P (c.invalidate id) :=
  hf _ _ List.filter_sublist.subset

theorem invalidateExpired_preserves {P : Cache → Prop} {c : Cache}
    (hf : ∀ q m, m ⊆ c.cmdMap → P ⟨c.sessions.filter q, m⟩) (now : Nat) : P (c.invalidateExpired now) :=
  hf _ _ List.filter_sublist.subset

theorem lookupNonExpired_preserves {P : Cache → Prop} {c : Cache} (h : P c)
    (hf : ∀ q m, m ⊆ c.cmdMap → P ⟨c.sessions.filter q, m⟩) (now : Nat) (id : Str) :
    P (c.lookupNonExpired now id).1 := by
  unfold Cache.lookupNonExpired
  cases c.get id with
  | none => exact h
  | some e =>
    dsimp only
    split
    · exact hf _ _ (List.Subset.refl _)
    · exact h

theorem lookupByCommand_eq (c : Cache) (now : Nat) (tag addr cmd : Str) :
    c.lookupByCommand now tag addr cmd =
      (c.cmdMap.lookup (cmdKey tag addr cmd)).bind fun sid => (c.get sid).filter fun e => !e.expired now := by
  unfold Cache.lookupByCommand
  cases c.cmdMap.lookup (cmdKey tag addr cmd) with
  | none => rfl
  | some sid =>
    -- without this `cases c.get sid` finds nothing to abstract under the `match some sid with`
    dsimp only [Option.bind]
    cases c.get sid with
    | none => rfl
    | some e => cases h : e.expired now <;> simp [h, Option.filter]

theorem lookupByCommand_eq_some {c : Cache} {now : Nat} {tag addr cmd : Str} {e : Entry} :
    c.lookupByCommand now tag addr cmd = some e ↔
      ∃ sid, c.cmdMap.lookup (cmdKey tag addr cmd) = some sid ∧ c.get sid = some e ∧ e.expired now = false := by
  simp [lookupByCommand_eq, Option.bind_eq_some_iff, Option.filter_eq_some_iff]

/-! `storeClientSession` files the session in place of whatever was under its identifier
(F-C07-sid-collision) and then only adds routes; an over-approximation of the routes is all the
invariants need. -/

theorem forget_eq_invalidate (c : Cache) (id : Str) : c.forget id = c.invalidate id := rfl

theorem clientStore_sessions (c : Cache) (tag addr : Str) (e : Entry) :
    (clientStore c tag addr e).sessions = ((c.invalidate e.id).store { e with tag := tag, addr := addr }).sessions :=
  List.foldlRecOn (motive := fun acc : Cache => acc.sessions = _) _ _ (by rw [forget_eq_invalidate])
    fun acc h cmd _ => by
      split
      · exact h
      · exact h

theorem mem_clientStore_cmdMap {c : Cache} {tag addr : Str} {e : Entry} {p : Str × Str}
    (hp : p ∈ (clientStore c tag addr e).cmdMap) :
    p ∈ c.cmdMap ∧ p.2 ≠ e.id ∨ ∃ cmd ∈ e.validCommands, p = (cmdKey tag addr cmd, e.id) := by
  revert hp
  refine List.foldlRecOn (motive := fun acc : Cache => p ∈ acc.cmdMap → _) _ _ ?_ ?_
  · intro hp
    exact .inl ⟨List.filter_sublist.subset hp, invalidate_no_routes c e.id p hp⟩
  · intro acc ih cmd hcmd hp
    split at hp
    · exact ih hp
    · rcases List.mem_cons.mp hp with h | h
      · exact .inr ⟨cmd, hcmd, h⟩
      · exact ih (List.filter_sublist.subset h)

end Cedar.SC
