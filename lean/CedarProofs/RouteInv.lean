/-
  C07: the command routes of a client cache lead only to sessions established under the route's own
  (tag, server) and for a command the server declared — as an invariant of every history of client
  operations, in particular of full handshakes in which the SERVER chooses the session identifier
  (and may choose one the cache already knows: F-C07-sid-collision).
  The invariant is stated over MEMBERSHIP in the two association lists, so it is closed under the
  filters all the cache operations are made of.
-/
import CedarProofs.CacheKey
import CedarProofs.CacheResume

namespace Cedar.SC

def RouteInv (c : Cache) : Prop :=
  ∀ t a m sid e, (cmdKey t a m, sid) ∈ c.cmdMap → (sid, e) ∈ c.sessions →
    e.tag = t ∧ e.addr = a ∧ m ∈ e.validCommands

def Inv (c : Cache) : Prop := WFm c ∧ RouteInv c

theorem inv_empty : Inv {} := by
  constructor
  · intro id e h; cases h
  · intro t a m sid e h; cases h

theorem inv_filter {c : Cache} (h : Inv c) (q : Str × Entry → Bool) (m : List (Str × Str)) (hm : m ⊆ c.cmdMap) :
    Inv ⟨c.sessions.filter q, m⟩ :=
  ⟨fun id e he => h.1 id e (List.filter_sublist.subset he),
   fun t a k sid e hr he => h.2 t a k sid e (hm hr) (List.filter_sublist.subset he)⟩

theorem inv_store_renew {c : Cache} (h : Inv c) {id : Str} {e : Entry} (he : (id, e) ∈ c.sessions) (now : Nat) :
    Inv (c.store (e.renew now)) := by
  rw [renew_eq]
  refine ⟨wfm_store h.1 _, fun t a m sid x hr hx => ?_⟩
  rcases mem_store hx with heq | ⟨hold, _⟩
  · cases heq
    exact h.2 t a m id e (h.1 id e he ▸ hr) he
  · exact h.2 t a m sid x hr hold

/-- The server chooses the identifier; whatever was filed under it, and every route that led to it,
    is dropped first (F-C07-sid-collision), so afterwards the only routes to it are the new
    session's own. -/
theorem inv_clientStore {c : Cache} (h : Inv c) (tag addr : Str) (e : Entry) : Inv (clientStore c tag addr e) := by
  constructor
  · rw [WFm, clientStore_sessions]
    exact wfm_store (invalidate_preserves (inv_filter h) e.id).1 _
  · intro t a m sid x hr hx
    rw [clientStore_sessions] at hx
    rcases mem_clientStore_cmdMap hr with ⟨hold, hne⟩ | ⟨cmd, hcmd, heq⟩
    · rcases mem_store hx with heq | ⟨hx', _⟩
      · cases heq; exact absurd rfl hne
      · exact h.2 t a m sid x hold (List.filter_sublist.subset hx')
    · obtain ⟨hk, rfl⟩ := Prod.mk.inj heq
      obtain ⟨rfl, rfl, rfl⟩ := cmdKey_injective hk
      rcases mem_store hx with heq | ⟨_, hne⟩
      · cases heq; exact ⟨rfl, rfl, hcmd⟩
      · exact absurd rfl hne

/-- What a handshaking client does to its cache. Fewer operations than `COp` (CacheHistory): a bare
    `Store` or `MapCommand` (claim and inherited sessions are filed that way) can plant any route,
    so the invariant is one of these histories only. -/
inductive ClientOp
  | full (tag addr : Str) (e : Entry)       -- a full handshake; `e` is the session as the SERVER declared it (its id included)
  | tryResume (now : Nat) (tag addr cmd : Str) (ans : ServerAnswer) (ra : Bool)
  | byId (now : Nat) (sid : Str) (ans : ServerAnswer) (ra : Bool)
  | invalidate (sid : Str)
  | expire (now : Nat)
  | lookup (now : Nat) (sid : Str)

def ClientOp.apply (c : Cache) : ClientOp → Cache
  | .full t a e => clientStore c t a e
  | .tryResume now t a m ans ra => (clientTry c now t a m ans ra).1
  | .byId now sid ans ra => (clientById c now sid ans ra).1
  | .invalidate sid => c.invalidate sid
  | .expire now => c.invalidateExpired now
  | .lookup now sid => (c.lookupNonExpired now sid).1

def runOps (c : Cache) (ops : List ClientOp) : Cache := ops.foldl ClientOp.apply c

theorem inv_apply {c : Cache} (h : Inv c) (op : ClientOp) : Inv (op.apply c) := by
  have hr := fun now => resume_preserves (now := now) h (inv_filter h) fun _ _ _ hr =>
    inv_store_renew h (get_mem (resumable_eq_some.mp hr).1) now
  cases op with
  | full t a e => exact inv_clientStore h t a e
  | tryResume now t a m ans ra => exact (hr now).2.1 t a m ans ra
  | byId now sid ans ra => exact (hr now).2.2 sid ans ra
  | invalidate sid => exact invalidate_preserves (inv_filter h) sid
  | expire now => exact invalidateExpired_preserves (inv_filter h) now
  | lookup now sid => exact lookupNonExpired_preserves h (inv_filter h) now sid

theorem inv_runOps (ops : List ClientOp) (c : Cache) (h : Inv c) : Inv (runOps c ops) :=
  List.foldlRecOn ops ClientOp.apply h fun _ h op _ => inv_apply h op

end Cedar.SC
