/-
  The command-map key `cmdKey` determines its parts. Commas and backslashes inside a part are escaped
  (F-C07-comma-collision), so the key is uniquely decodable: `splitKey` reads the first part back.
-/
import CedarModel.SessionCache

namespace Cedar.SC

/-- the part before the first unescaped comma, unescaped, and what follows that comma -/
def splitKey : Str → Str × Str
  | [] => ([], [])
  | ',' :: r => ([], r)
  | '\\' :: c :: t => (c :: (splitKey t).1, (splitKey t).2)
  | c :: t => (c :: (splitKey t).1, (splitKey t).2)

theorem splitKey_esc (a r : Str) : splitKey (esc a ++ ',' :: r) = (a, r) := by
  induction a with
  | nil => rfl
  | cons c t ih =>
    by_cases h1 : c = ','
    · simp [esc, esc1, splitKey, h1, ih]
    · by_cases h2 : c = '\\'
      · simp [esc, esc1, splitKey, h2, ih]
      · simp [esc, esc1, splitKey, h1, h2, ih]

theorem split_esc : ∀ (a a' r r' : Str), esc a ++ ',' :: r = esc a' ++ ',' :: r' → a = a' ∧ r = r' := by
  intro a a' r r' h
  simpa [splitKey_esc] using congrArg splitKey h

theorem esc_ne_split : ∀ (w a z : Str), esc w ≠ esc a ++ ',' :: z := by
  intro w a z h
  -- with a comma appended to both sides `split_esc` applies; what follows the first separating comma
  -- is `[]` on the left and `z ++ [',']` on the right
  have h' : esc w ++ [','] = esc a ++ ',' :: (z ++ [',']) := by rw [h, List.append_assoc, List.cons_append]
  exact absurd (split_esc w a [] _ h').2 (by simp)

theorem esc_append (a b : Str) : esc (a ++ b) = esc a ++ esc b := by
  induction a with
  | nil => rfl
  | cons x xs ih => simp [esc, ih]

theorem esc_injective {a b : Str} (h : esc a = esc b) : a = b :=
  (split_esc a b [] [] (by rw [h])).1

/-- so that the facts about `esc` apply to the last part `<cmd>}` of a key -/
theorem cmdTail_eq_esc (c : Str) : '<' :: (esc c ++ ['>', '}']) = esc ('<' :: (c ++ ['>', '}'])) := by
  simp [esc, esc1, esc_append]

/-- a key with a tag and one without differ in the number of separating commas, which
    `esc_ne_split` rules out on the last part -/
theorem cmdKey_injective {tag addr cmd tag' addr' cmd' : Str}
    (h : cmdKey tag addr cmd = cmdKey tag' addr' cmd') : tag = tag' ∧ addr = addr' ∧ cmd = cmd' := by
  have tail : ∀ {c c' : Str}, esc ('<' :: (c ++ ['>', '}'])) = esc ('<' :: (c' ++ ['>', '}'])) → c = c' :=
    fun hc => List.append_cancel_right (List.cons.inj (esc_injective hc)).2
  unfold cmdKey at h
  rw [cmdTail_eq_esc, cmdTail_eq_esc] at h
  by_cases h1 : tag ≠ [] <;> by_cases h2 : tag' ≠ []
  · rw [if_pos h1, if_pos h2] at h
    obtain ⟨rfl, h3⟩ := split_esc _ _ _ _ (List.cons.inj h).2
    obtain ⟨rfl, h4⟩ := split_esc _ _ _ _ h3
    exact ⟨rfl, rfl, tail h4⟩
  · rw [if_pos h1, if_neg h2] at h
    exact absurd (split_esc _ _ _ _ (List.cons.inj h).2).2.symm (esc_ne_split _ _ _)
  · rw [if_neg h1, if_pos h2] at h
    exact absurd (split_esc _ _ _ _ (List.cons.inj h).2).2 (esc_ne_split _ _ _)
  · rw [if_neg h1, if_neg h2] at h
    obtain ⟨rfl, h3⟩ := split_esc _ _ _ _ (List.cons.inj h).2
    exact ⟨(Decidable.not_not.mp h1).trans (Decidable.not_not.mp h2).symm, rfl, tail h3⟩

end Cedar.SC
