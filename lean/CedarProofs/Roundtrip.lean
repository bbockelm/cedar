/-
  Honest wires (C01): a receiver in step with the sender accepts every frame the sender emits, so
  `Stream.accepted` of what was sent is what was sent, and the `ReceiveCompleteMessage` loop returns
  exactly the messages sent (`deliver_eq`, ReceivePaths.lean). Also: frames within the typed layer's
  bound are accepted by the sender and pass the receiver's header checks.
-/
import CedarModel.Codec
import CedarProofs.ReceivePaths

namespace Cedar

theorem plain_frame_accepted {r : Stream} {d : Bytes} {fl : Nat} (hk : r.crypting = false)
    (hd : d.length ≤ maxMessageSize) (hfl : fl ≤ maxEndFlag) :
    ∃ r', r.recvFrameWithEnd ⟨fl, d.length, .raw d⟩ = .ok (r', d, fl) ∧ r'.crypting = false := by
  refine ⟨_, (recvFrameWithEnd_plain_ok hk).mpr ⟨checkHdr_ok.mpr ⟨hd, hfl⟩, rfl, ?_, rfl⟩, hk⟩
  split
  · exact List.eq_nil_of_length_eq_zero ‹_›
  · rfl

theorem accepted_sendAll_plain : ∀ (ops : List SendOp) (s s' r : Stream) (sent : List WireFrame),
    s.crypting = false → r.crypting = false → (∀ op ∈ ops, op.2 ≤ 1) →
    s.sendAll ops = .ok (s', sent) → r.accepted sent = ops
  | [], _, _, r, _, _, _, _, h => by cases h; rfl
  | (d, fl) :: rest, s, s', r, sent, hs, hr, hfl, h => by
    obtain ⟨s1, f, fs, hsf, hrest, rfl⟩ := sendAll_cons_ok.mp h
    obtain ⟨hd, rfl, hs1⟩ := (sendFrame_plain_ok hs).mp hsf
    obtain ⟨r1, hrecv, hr1⟩ := plain_frame_accepted (fl := fl) hr hd
      (flag_le_maxEndFlag (hfl (d, fl) (List.mem_cons_self ..)))
    rw [accepted_cons hrecv, accepted_sendAll_plain rest s1 s' r1 fs (by rw [hs1]; exact hs) hr1
      (fun op h => hfl op (List.mem_cons_of_mem _ h)) hrest]

theorem frameAt_accepted {r : Stream} {k iv dg c0 m} {it : Item}
    (hr : RecvInv r k iv c0 m) (hdg : c0 + m = 0 → (r.dig.fr, r.dig.fs) = dg ∧ iv ≠ r.encIV)
    (hlen : it.len = it.plain.length + tagLen + (if c0 + m = 0 then ivLen else 0))
    (hmax : it.len ≤ maxMessageSize) (hfl : it.flag ≤ maxEndFlag) :
    ∃ r', r.recvFrameWithEnd (frameAt k iv dg (c0 + m) it) = .ok (r', it.plain, it.flag) ∧
          RecvInv r' k iv c0 (m + 1) := by
  have hopen : r.openBody k (frameAt k iv dg (c0 + m) it) = .ok (iv, it.plain) := by
    refine openBody_of_seal (c := sealedAt k iv dg (c0 + m) it) rfl rfl (by rw [hr.ctr]; rfl) ?_ ?_
    · show (⟨if c0 + m = 0 then some dg else none, it.flag, it.len⟩ : Aad) =
        ⟨if r.finRecvAAD then none else some (r.dig.fr, r.dig.fs), it.flag, it.len⟩
      by_cases hz : c0 + m = 0
      · rw [if_pos hz, hr.fin, decide_eq_false (fun h => h hz), (hdg hz).1]; rfl
      · rw [if_neg hz, hr.fin, decide_eq_true hz]; rfl
    · show if r.decCtr = 0 then (if c0 + m = 0 then some iv else none) = some iv ∧ iv ≠ r.encIV
        else (if c0 + m = 0 then some iv else none) = none ∧ iv = r.decIV
      rw [hr.ctr]
      by_cases hz : c0 + m = 0
      · rw [if_pos hz, if_pos hz]; exact ⟨rfl, (hdg hz).2⟩
      · rw [if_neg hz, if_neg hz]; exact ⟨rfl, (hr.iv hz).symm⟩
  exact ⟨_, (recvFrameWithEnd_keyed_ok hr.key hr.enc).mpr ⟨checkHdr_ok.mpr ⟨hmax, hfl⟩,
    by show it.len ≠ 0; unfold tagLen at hlen; omega, rfl, iv, hopen, rfl⟩, afterOpen_recvInv hr _⟩

theorem accepted_framesFrom {k iv dg c0} : ∀ (items : List Item) (r : Stream) (m : Nat),
    RecvInv r k iv c0 m → (c0 + m = 0 → (r.dig.fr, r.dig.fs) = dg ∧ iv ≠ r.encIV) →
    (∀ j it, items[j]? = some it →
        it.len = it.plain.length + tagLen + (if c0 + m + j = 0 then ivLen else 0) ∧
        it.len ≤ maxMessageSize ∧ it.flag ≤ 1) →
    r.accepted (framesFrom k iv dg (c0 + m) items) = items.map Item.op
  | [], _, _, _, _, _ => rfl
  | it :: rest, r, m, hr, hdg, hall => by
    obtain ⟨h1, h2, h3⟩ := hall 0 it rfl
    obtain ⟨r1, hrecv, hr1⟩ := frameAt_accepted hr hdg h1 h2 (flag_le_maxEndFlag h3)
    rw [framesFrom, accepted_cons hrecv, Nat.add_assoc,
      accepted_framesFrom rest r1 (m + 1) hr1 (fun h => absurd h (Nat.succ_ne_zero _))
        (fun j it' hj => (show c0 + m + (j + 1) = c0 + (m + 1) + j by omega) ▸ hall (j + 1) it' hj)]
    rfl

/-- Only a first frame (`c0 = 0`) needs the two ends' digests to agree and the sender's IV to differ
    from the receiver's own (F-C02-reflection). -/
theorem messages_roundtrip_midstream {S S' R : Stream} {k : Nat} {iv : IV} {dg : Digest × Digest} {c0 : Nat}
    {ops : List SendOp} {sent : List WireFrame} (hS : SendInv S k iv dg c0) (hR : RecvInv R k iv c0 0)
    (hdg : c0 = 0 → (R.dig.fr, R.dig.fs) = dg ∧ iv ≠ R.encIV) (hfl : ∀ op ∈ ops, op.2 ≤ 1)
    (hsend : S.sendAll ops = .ok (S', sent)) :
    R.deliver sent = messagesOf [] ops := by
  obtain ⟨items, rfl, rfl, _, _, hall⟩ := sendAll_spec hS hsend
  exact deliver_eq (accepted_framesFrom items R 0 hR hdg fun j it hj =>
    ⟨(hall j it hj).1, (hall j it hj).2, hfl _ (List.mem_map_of_mem (List.mem_of_getElem? hj))⟩) hfl

theorem sendFrame_fits (s : Stream) (data : Bytes) (flag : Nat)
    (hlen : data.length ≤ maxFramePayload s.crypting) (hctr : s.encCtr ≠ counterLimit) :
    ∃ s' f, s.sendFrame data flag = .ok (s', f) ∧ s'.crypting = s.crypting ∧ s'.encCtr ≤ s.encCtr + 1 := by
  have hmm : maxFrameSize = maxMessageSize := rfl
  rcases crypting_cases s with hc | ⟨k, hk, he⟩
  · rw [hc, maxFramePayload, if_neg Bool.false_ne_true, hmm] at hlen
    exact ⟨_, _, (sendFrame_plain_ok hc).mpr ⟨hlen, rfl, rfl⟩, rfl, Nat.le_succ _⟩
  · rw [crypting_of_keyed hk he, maxFramePayload, if_pos rfl, hmm] at hlen
    refine ⟨_, _, (sendFrame_keyed_ok hk he).mpr ⟨?_, hctr, rfl, rfl⟩, rfl, Nat.le_refl _⟩
    have hroom : gcmRoom = tagLen + ivLen ∧ gcmRoom ≤ maxMessageSize := by decide
    split <;> omega

theorem sendAll_fits : ∀ (ops : List SendOp) (s : Stream),
    (∀ op ∈ ops, op.1.length ≤ maxFramePayload s.crypting ∧ op.2 ≤ 1) →
    s.encCtr + ops.length ≤ counterLimit →
    ∃ s' sent, s.sendAll ops = .ok (s', sent) ∧ sent.length = ops.length ∧
      ∀ f ∈ sent, checkHdr f = .ok () ∧ f.len = f.body.wireLen
  | [], s, _, _ => ⟨s, [], rfl, rfl, nofun⟩
  | (d, fl) :: rest, s, hall, hctr => by
    obtain ⟨hd, hfl⟩ := hall (d, fl) (List.mem_cons_self ..)
    rw [List.length_cons] at hctr
    obtain ⟨s1, f, hsf, hcr, hc1⟩ := sendFrame_fits s d fl hd (by omega)
    obtain ⟨s2, fs, hrest, hlen, hchk⟩ := sendAll_fits rest s1
      (fun o ho => hcr ▸ hall o (List.mem_cons_of_mem _ ho)) (by omega)
    exact ⟨s2, f :: fs, sendAll_cons_ok.mpr ⟨s1, f, fs, hsf, hrest, rfl⟩, congrArg (· + 1) hlen,
      List.forall_mem_cons.mpr ⟨⟨(sendFrame_passes_checkHdr hfl hsf).1, (sendFrame_passes_checkHdr hfl hsf).2.1⟩, hchk⟩⟩

inductive AcceptChain : Stream → List WireFrame → List SendOp → Stream → Prop
  | nil (r : Stream) : AcceptChain r [] [] r
  | cons {r r1 r' : Stream} {f fs p fl ops} :
      r.recvFrameWithEnd f = .ok (r1, p, fl) → fl ≤ 1 → AcceptChain r1 fs ops r' →
      AcceptChain r (f :: fs) ((p, fl) :: ops) r'

theorem AcceptChain.length_eq {r fs ops r'} (h : AcceptChain r fs ops r') : fs.length = ops.length := by
  induction h with
  | nil => rfl
  | cons _ _ _ ih => simp [ih]

end Cedar
