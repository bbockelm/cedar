/-
  The wire-level meaning of "the connection is protected by key k" (C06, C03), `ProtectedBy`: on a
  stream that holds key `k` with encryption on, every frame a receive API accepts and every frame a
  send API emits is a seal under `k`, out of which a reader without `k` gets nothing; this survives
  every operation except the explicit `SetCryptoMode(false)`.
-/
import CedarProofs.Step

namespace Cedar

/-- `s.gcm != nil && s.encrypted` of the Go stream -/
def Keyed (s : Stream) (k : Nat) : Prop := s.key = some k ∧ s.encrypted = true

def SealedUnder (k : Nat) (f : WireFrame) (p : Bytes) : Prop :=
  ∃ ivo c, f.body = .ct ivo c ∧ c.key = k ∧ c.plain = p

def NotUnder (k : Nat) (g : WireFrame) : Prop := ∀ ivo c, g.body = .ct ivo c → c.key ≠ k

theorem setKey_keyed (s : Stream) (k : Nat) (iv : IV) : Keyed (s.setKey k iv) k := ⟨rfl, rfl⟩

theorem afterOpen_feedRecv_fields (s : Stream) (iv : IV) (b : Bytes) :
    ((s.afterOpen iv).feedRecv b).key = s.key ∧ ((s.afterOpen iv).feedRecv b).encrypted = s.encrypted ∧
    ((s.afterOpen iv).feedRecv b).beforeSecret = s.beforeSecret := ⟨rfl, rfl, rfl⟩

theorem recvFrameWithEnd_body {s s' : Stream} {g d fl} (h : s.recvFrameWithEnd g = .ok (s', d, fl))
    (hl : g.len ≠ 0) :
    (s.crypting = false ∧ g.body = .raw d) ∨ (∃ k, Keyed s k ∧ Keyed s' k ∧ SealedUnder k g d) := by
  rcases crypting_cases s with hc | ⟨k, hk, he⟩
  · have := ((recvFrameWithEnd_plain_ok hc).mp h).2.2.1
    rw [if_neg hl] at this; exact .inl ⟨hc, this⟩
  · obtain ⟨_, _, _, iv, ho, rfl⟩ := (recvFrameWithEnd_keyed_ok hk he).mp h
    obtain ⟨ivo, c, hb, hck, hp, _⟩ := openBody_ok ho
    exact .inr ⟨k, ⟨hk, he⟩, ⟨hk, he⟩, ivo, c, hb, hck, hp⟩

theorem recvFrameWithEnd_under {s s' : Stream} {k : Nat} {g d fl} (hk : Keyed s k)
    (h : s.recvFrameWithEnd g = .ok (s', d, fl)) : SealedUnder k g d ∧ Keyed s' k := by
  rcases recvFrameWithEnd_body h ((recvFrameWithEnd_keyed_ok hk.1 hk.2).mp h).2.1 with
    ⟨hc, _⟩ | ⟨k', hk', hs', hu⟩
  · rw [crypting_of_keyed hk.1 hk.2] at hc; cases hc
  · cases hk'.1.symm.trans hk.1; exact ⟨hu, hs'⟩

theorem recvFrame_under {s s' : Stream} {k : Nat} {g d} (hk : Keyed s k)
    (h : s.recvFrame g = .ok (s', d)) : SealedUnder k g d ∧ Keyed s' k :=
  recvFrameWithEnd_under hk ((recvFrame_keyed_iff_withEnd hk.1 hk.2).mp h)

theorem getSecret_under {s s' : Stream} {k : Nat} {g d} (hk : Keyed s k)
    (h : s.getSecret g = .ok (s', d)) : (∃ p, SealedUnder k g p ∧ d = stripNul p) ∧ Keyed s' k := by
  obtain ⟨s1, p, hr, rfl, rfl⟩ := getSecret_ok.mp h
  have hp : Keyed s.prepareSecret k := by rw [prepareSecret_eq]; exact ⟨hk.1, by rw [hk.2, Bool.or_true]⟩
  have hs := (getSecret_shape h)
  exact ⟨⟨p, (recvFrame_under hp hr).1, rfl⟩, hs.key.trans hk.1, hs.mode.trans hk.2⟩

theorem NotUnder.not_sealedUnder {k : Nat} {g : WireFrame} {p : Bytes} (hn : NotUnder k g) (hs : SealedUnder k g p) :
    False := by
  obtain ⟨ivo, c, hb, hc, _⟩ := hs
  exact hn ivo c hb hc

theorem keyed_rejects {s : Stream} {k : Nat} {g : WireFrame} (hk : Keyed s k) (hn : NotUnder k g) :
    (∃ e, s.recvFrameWithEnd g = .error e) ∧ (∃ e, s.recvFrame g = .error e) ∧ (∃ e, s.getSecret g = .error e) :=
  ⟨except_error_of_not_ok _ fun _ h => hn.not_sealedUnder (recvFrameWithEnd_under hk h).1,
   except_error_of_not_ok _ fun _ h => hn.not_sealedUnder (recvFrame_under hk h).1,
   except_error_of_not_ok _ fun _ h => (getSecret_under hk h).1.elim fun _ hp => hn.not_sealedUnder hp.1⟩

theorem keyed_rejects_message {s : Stream} {k : Nat} {g : WireFrame} (hk : Keyed s k) (hn : NotUnder k g)
    (w : List WireFrame) (acc : Bytes) :
    (∃ e, s.recvCompleteAux acc (g :: w) = .error e) ∧ (∃ e, s.readNextFrame (g :: w) = .error e) ∧
    (∃ e, s.startMessageRead (g :: w) = .error e) ∧ (∃ e, s.recvRestAux acc (g :: w) = .error e) := by
  obtain ⟨e, he⟩ := (keyed_rejects hk hn).1
  have h2 : s.readNextFrame (g :: w) = .error e := by rw [Stream.readNextFrame, he]
  refine ⟨⟨e, by rw [Stream.recvCompleteAux, he]⟩, ⟨e, h2⟩, ?_, ⟨e, by rw [Stream.recvRestAux, he]⟩⟩
  refine except_error_of_not_ok _ fun _ h => ?_
  obtain ⟨_, _, hr, _⟩ := startMessageRead_ok.mp h
  exact nomatch h2.symm.trans hr

def Op.keepsCrypto : Op → Bool
  | .crypto false => false
  | _ => true

theorem step_keyed {s : Stream} {k : Nat} (hk : Keyed s k) (op : Op) (hop : op.keepsCrypto = true) :
    Keyed (s.step op).1 k ∧ ∀ f ∈ (s.step op).2, (∃ p, SealedUnder k f p) ∧ 0 < f.len := by
  rcases step_shape s op with h | ⟨on, rfl⟩
  · refine ⟨⟨h.key.trans hk.1, h.mode.trans hk.2⟩, ?_⟩
    rcases h.out with ⟨e, _⟩ | ⟨d, fl, _, _, hc⟩ | ⟨k', t, d, fl, hk', _, _, _, e, _⟩
    · rw [e]; exact fun _ h => nomatch h
    · rw [crypting_of_keyed hk.1 hk.2] at hc; cases hc
    · cases hk.1.symm.trans hk'
      rw [e]; intro f hf; cases List.mem_singleton.mp hf
      exact ⟨⟨d, _, _, rfl, rfl, rfl⟩, sealFrame_len_pos ..⟩
  · cases on with
    | false => cases hop
    | true =>
      refine ⟨?_, fun _ h => nomatch h⟩
      show Keyed (s.setCryptoMode true).1 k
      rw [setCryptoMode_fst]
      refine ⟨hk.1, ?_⟩
      show (true && (s.key.isSome || s.encrypted)) = true
      rw [hk.2, Bool.or_true]
      rfl

theorem run_keyed : ∀ (ops : List Op) (s : Stream) (k : Nat), Keyed s k → (∀ op ∈ ops, op.keepsCrypto = true) →
    Keyed (s.run ops).1 k ∧ ∀ f ∈ (s.run ops).2, (∃ p, SealedUnder k f p) ∧ 0 < f.len
  | [], _, _, hk, _ => ⟨hk, fun _ h => nomatch h⟩
  | op :: rest, s, k, hk, hops => by
    obtain ⟨h1, h2⟩ := step_keyed hk op (hops op (List.mem_cons_self ..))
    obtain ⟨h3, h4⟩ := run_keyed rest (s.step op).1 k h1 (fun o ho => hops o (List.mem_cons_of_mem _ ho))
    exact ⟨h3, List.forall_mem_append.mpr ⟨h2, h4⟩⟩

/-- no key, or another key. A stream that is not decrypting is handed ciphertext, which the symbolic
    model does not count as data: `.malformed`; one decrypting under another key: `authFail`. -/
theorem without_key_reads_nothing {r : Stream} {k : Nat} {f : WireFrame} {p : Bytes}
    (hr : r.key ≠ some k) (hf : SealedUnder k f p) (hl : 0 < f.len) :
    (∃ e, r.recvFrameWithEnd f = .error e) ∧ (∃ e, r.recvFrame f = .error e) ∧ (∃ e, r.getSecret f = .error e) := by
  obtain ⟨ivo, c, hb, hc, _⟩ := hf
  have hl' : f.len ≠ 0 := Nat.ne_of_gt hl
  have key : ∀ {t : Stream} {x}, t.key = r.key → t.recvFrameWithEnd f ≠ .ok x := by
    intro t x ht h
    rcases recvFrameWithEnd_body h hl' with ⟨_, hraw⟩ | ⟨k', hk', _, _, c', hb', hc', _⟩
    · rw [hb] at hraw; cases hraw
    · rw [hb] at hb'; cases hb'
      exact hr (by rw [← ht, hk'.1, ← hc', hc])
  have keyP : ∀ {t : Stream} {x}, t.key = r.key → t.recvFrame f ≠ .ok x := by
    intro t x ht h
    rcases recvFrame_ok.mp h with h0 | ⟨_, h⟩
    · exact hl' h0.1
    · exact key ht h
  refine ⟨except_error_of_not_ok _ fun _ => key rfl, except_error_of_not_ok _ fun _ => keyP rfl,
    except_error_of_not_ok _ fun _ h => ?_⟩
  obtain ⟨s1, q, hrf, _⟩ := getSecret_ok.mp h
  exact keyP (by rw [prepareSecret_eq]) hrf

/-- "the connection is protected by key `k`": what holds of an endpoint state `S` and of the frames
    `emitted` it has put on the wire. -/
structure ProtectedBy (S : Stream) (emitted : List WireFrame) (k : Nat) : Prop where
  keyed : Keyed S k
  recv_under : ∀ g s' d fl, S.recvFrameWithEnd g = .ok (s', d, fl) → SealedUnder k g d
  recvPlain_under : ∀ g s' d, S.recvFrame g = .ok (s', d) → SealedUnder k g d
  getSecret_under : ∀ g s' d, S.getSecret g = .ok (s', d) → ∃ p, SealedUnder k g p ∧ d = stripNul p
  rejects : ∀ g, NotUnder k g →
    (∃ e, S.recvFrameWithEnd g = .error e) ∧ (∃ e, S.recvFrame g = .error e) ∧ (∃ e, S.getSecret g = .error e) ∧
    ∀ w acc, (∃ e, S.recvCompleteAux acc (g :: w) = .error e) ∧ (∃ e, S.readNextFrame (g :: w) = .error e) ∧
             (∃ e, S.startMessageRead (g :: w) = .error e) ∧ (∃ e, S.recvRestAux acc (g :: w) = .error e)
  sent_under : ∀ f ∈ emitted, (∃ p, SealedUnder k f p) ∧ 0 < f.len
  sent_opaque : ∀ f ∈ emitted, ∀ r : Stream, r.key ≠ some k →
    (∃ e, r.recvFrameWithEnd f = .error e) ∧ (∃ e, r.recvFrame f = .error e) ∧ (∃ e, r.getSecret f = .error e)

/-- stated at the end of a history; histories being arbitrary, it holds at every point of one -/
theorem run_protected (s : Stream) (k : Nat) (hk : Keyed s k) (hist : List Op)
    (hon : ∀ op ∈ hist, op.keepsCrypto = true) : ProtectedBy (s.run hist).1 (s.run hist).2 k := by
  obtain ⟨hK, hA⟩ := run_keyed hist s k hk hon
  exact {
    keyed := hK
    recv_under := fun g s' d fl h => (recvFrameWithEnd_under hK h).1
    recvPlain_under := fun g s' d h => (recvFrame_under hK h).1
    getSecret_under := fun g s' d h => (getSecret_under hK h).1
    rejects := fun g hn =>
      ⟨(keyed_rejects hK hn).1, (keyed_rejects hK hn).2.1, (keyed_rejects hK hn).2.2,
       fun w acc => keyed_rejects_message hK hn w acc⟩
    sent_under := hA
    sent_opaque := fun f hf r hr => by
      obtain ⟨⟨p, hp⟩, hl⟩ := hA f hf
      exact without_key_reads_nothing hr hp hl }

/-- the hypothesis of `run_protected` is needed: one `SetCryptoMode(false)` and the next send is
    cleartext (the API exists; the library itself turns encryption off nowhere outside
    PutSecret/GetSecret's save-and-restore) -/
example : ((({} : Stream).setKey 7 ⟨1, []⟩).run [.crypto false, .send [1] 1]).2 = [⟨1, 1, .raw [1]⟩] := by decide +kernel

end Cedar
