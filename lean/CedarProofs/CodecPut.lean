/-
  The encoder of the typed layer, put by put: the payload bytes of the primitive puts (the flush
  policy never alters the byte sequence); whatever a put flushes carries no end-of-message flag; a
  string leaves a non-empty buffer behind. `putString` is walked as flush, length prefix, body.
-/
import CedarModel.Codec

namespace Cedar

theorem seqPut_fst (r : PutRes) (f : Bytes → PutRes) : (seqPut r f).1 = (f r.1).1 := rfl

theorem maxFramePayload_pos (enc : Bool) : 0 < maxFramePayload enc := by cases enc <;> decide

theorem chunksOf_spec (n : Nat) (hn : 0 < n) : ∀ (fuel : Nat) (data : Bytes), data.length ≤ fuel →
    (chunksOf n fuel data).flatten = data ∧ ∀ ch ∈ chunksOf n fuel data, ch ≠ [] ∧ ch.length ≤ n := by
  intro fuel
  induction fuel with
  | zero => intro data h; cases List.eq_nil_of_length_eq_zero (Nat.le_zero.mp h); exact ⟨rfl, nofun⟩
  | succ fuel ih =>
    intro data h
    unfold chunksOf
    cases data with
    | nil => exact ⟨rfl, nofun⟩
    | cons b t =>
      obtain ⟨hflat, hall⟩ := ih ((b :: t).drop n) (by rw [List.length_drop]; omega)
      rw [List.isEmpty_cons, if_neg (by decide)]
      exact ⟨by rw [List.flatten_cons, hflat, List.take_append_drop], List.forall_mem_cons.mpr
        ⟨⟨fun h0 => (List.take_eq_nil_iff.mp h0).elim (by omega) nofun, List.length_take_le _ _⟩, hall⟩⟩

theorem wireBytes_putInt (buf : Bytes) (v : Int) : wireBytes (putInt buf v) = buf ++ be64 (toU64 v) := by
  unfold putInt wireBytes; split <;> simp

theorem wireBytes_putChar (buf : Bytes) (c : UInt8) : wireBytes (putChar buf c) = buf ++ [c] := by
  unfold putChar wireBytes; split <;> simp

theorem wireBytes_seqPut (r1 : PutRes) (f : Bytes → PutRes) (x : Bytes)
    (hf : wireBytes (f r1.1) = r1.1 ++ x) : wireBytes (seqPut r1 f) = wireBytes r1 ++ x := by
  unfold seqPut wireBytes at *
  simp only [List.map_append, List.flatten_append, List.append_assoc]
  rw [hf]

/-- in this form `rw` finds `f` and `x` by pattern unification; with the hypothesis at `r.1` only
    (`wireBytes_seqPut`) it has to unfold the put -/
theorem wireBytes_seqPut' {f : Bytes → PutRes} {x : Bytes} (hf : ∀ b, wireBytes (f b) = b ++ x) (r : PutRes) :
    wireBytes (seqPut r f) = wireBytes r ++ x :=
  wireBytes_seqPut r f x (hf _)

theorem wireBytes_putChunks : ∀ (chunks : List Bytes) (buf : Bytes),
    wireBytes (putChunks buf chunks) = buf ++ chunks.flatten := by
  intro chunks
  induction chunks with
  | nil => intro buf; simp [putChunks, wireBytes]
  | cons ch rest ih =>
    intro buf
    have h1 := ih ch
    unfold wireBytes at h1 ⊢
    unfold putChunks
    by_cases hb : buf.length > 0
    · simp [hb, h1]
    · simp [List.eq_nil_of_length_eq_zero (Nat.eq_zero_of_not_pos hb), h1]

theorem wireBytes_putBytes (enc : Bool) (buf data : Bytes) :
    wireBytes (putBytes enc buf data) = buf ++ data := by
  unfold putBytes
  split
  · next h0 => simp [wireBytes, List.eq_nil_of_length_eq_zero h0]
  · split
    · rw [wireBytes_putChunks, (chunksOf_spec _ (maxFramePayload_pos enc) _ _ (Nat.le_refl _)).1]
    · split <;> simp [wireBytes]

theorem wireBytes_flushIf (c : Prop) [Decidable c] (buf : Bytes) (hc : ¬ c → True) :
    wireBytes (if c then (([] : Bytes), [((buf, false) : OutFrame)]) else (buf, [])) = buf := by
  split <;> simp [wireBytes]

theorem wireBytes_append (r : PutRes) (x : Bytes) : wireBytes (r.1 ++ x, r.2) = wireBytes r ++ x := by
  simp [wireBytes]

/-- the length prefix that `PutString` / `PutStringBytes` write on an encrypting stream -/
theorem wireBytes_lenPrefix (enc : Bool) (r : PutRes) (n : Int) :
    wireBytes (if enc = true then seqPut r (fun b => putInt b n) else r)
      = wireBytes r ++ (if enc = true then be64 (toU64 n) else []) := by
  cases enc
  · simp
  · exact wireBytes_seqPut' (fun b => wireBytes_putInt b n) r

/-- every frame a put flushes is a partial one (no end-of-message flag) -/
def Partial (r : PutRes) : Prop := ∀ f ∈ r.2, f.2 = false

theorem Partial.seqPut {r : PutRes} {g : Bytes → PutRes} (h1 : Partial r) (h2 : ∀ b, Partial (g b)) :
    Partial (seqPut r g) :=
  List.forall_mem_append.mpr ⟨h1, h2 _⟩

/-- stated for the pair so that the short branch of `putString` matches syntactically (unifying
    through `seqPut` is very slow) -/
theorem Partial.mk {r : PutRes} (h : Partial r) (b : Bytes) : Partial (b, r.2) := h

theorem Partial.nil (b : Bytes) : Partial (b, []) := nofun

theorem Partial.one (b buf : Bytes) : Partial (b, [(buf, false)]) := List.forall_mem_singleton.mpr rfl

theorem Partial.ite {c : Prop} [Decidable c] {a b : PutRes} (ha : Partial a) (hb : Partial b) :
    Partial (if c then a else b) :=
  iteInduction (fun _ => ha) (fun _ => hb)

theorem partial_flushIf (c : Prop) [Decidable c] (buf : Bytes) :
    Partial (if c then (([] : Bytes), [((buf, false) : OutFrame)]) else (buf, [])) :=
  .ite (.one _ _) (.nil _)

theorem partial_putInt (buf : Bytes) (v : Int) : Partial (putInt buf v) :=
  .ite (.one _ _) (.nil _)

theorem partial_putChar (buf : Bytes) (c : UInt8) : Partial (putChar buf c) :=
  .ite (.one _ _) (.nil _)

theorem partial_putChunks : ∀ (chunks : List Bytes) (buf : Bytes), Partial (putChunks buf chunks)
  | [], buf => .nil buf
  | _ :: rest, buf => List.forall_mem_append.mpr ⟨partial_flushIf _ buf, partial_putChunks rest _⟩

theorem partial_putBytes (enc : Bool) (buf data : Bytes) : Partial (putBytes enc buf data) :=
  .ite (.nil _) (.ite (partial_putChunks _ _) (.ite (.one _ _) (.nil _)))

theorem partial_lenPrefix (enc : Bool) {r : PutRes} (n : Int) (h : Partial r) :
    Partial (if enc = true then seqPut r (fun b => putInt b n) else r) :=
  .ite (h.seqPut fun b => partial_putInt b n) h

theorem partial_putString (enc : Bool) (buf s : Bytes) : Partial (putString enc buf s) :=
  .ite ((partial_lenPrefix enc _ (partial_flushIf _ buf)).seqPut fun b => partial_putBytes enc b _)
    ((partial_lenPrefix enc _ (partial_flushIf _ buf)).mk _)

theorem partial_putVal (enc : Bool) (buf : Bytes) (v : Val) : Partial (putVal enc buf v) := by
  cases v with
  | int x => exact partial_putInt buf x
  | char c => exact partial_putChar buf c
  | str s => exact partial_putString enc buf s

theorem putChunks_buf_ne : ∀ (chunks : List Bytes) (buf : Bytes), (∀ ch ∈ chunks, ch ≠ []) →
    buf ≠ [] ∨ chunks ≠ [] → (putChunks buf chunks).1 ≠ []
  | [], _, _, h => by simpa [putChunks] using h
  | ch :: rest, buf, hall, _ => by
    obtain ⟨hch, hrest⟩ := List.forall_mem_cons.mp hall
    unfold putChunks
    exact putChunks_buf_ne rest _ hrest (.inl (by simp [hch]))

theorem putBytes_buf_ne (enc : Bool) (buf data : Bytes) (hd : data ≠ []) : (putBytes enc buf data).1 ≠ [] := by
  have hl : data.length ≠ 0 := fun h => hd (List.eq_nil_of_length_eq_zero h)
  unfold putBytes
  rw [if_neg hl]
  split
  · obtain ⟨hflat, hall⟩ := chunksOf_spec _ (maxFramePayload_pos enc) _ data (Nat.le_refl _)
    exact putChunks_buf_ne _ _ (fun ch h => (hall ch h).1) (.inr fun h0 => hd (by rw [← hflat, h0]; rfl))
  · split
    · exact hd
    · simp [hd]

theorem putString_buf_ne (enc : Bool) (buf s : Bytes) : (putString enc buf s).1 ≠ [] := by
  unfold putString
  refine iteInduction (motive := fun r : PutRes => r.1 ≠ []) (fun _ => ?_) (fun _ => ?_)
  · rw [seqPut_fst]
    exact putBytes_buf_ne _ _ _ (by simp)
  · simp

end Cedar
