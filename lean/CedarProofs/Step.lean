/-
  The shape of one `Stream.step` on the sending half of the crypto state, from which the
  per-history invariants follow without looking at the operations again: here the summary of a run
  (key and base IV never change, one counter value per protected frame, C12); "protected by key k"
  is in Keyed.lean.
-/
import CedarProofs.StreamOps

namespace Cedar

theorem Stream.run_cons (s : Stream) (op : Op) (rest : List Op) :
    s.run (op :: rest) = (((s.step op).1.run rest).1, (s.step op).2 ++ ((s.step op).1.run rest).2) := rfl

/-- What a call of the stream API does to `(key, encIV, encCtr)` and to the crypto mode, and what it
    emits. The seal is `sealFrame` of some stream `t` with the IV and counter of `s`: the compound
    operations seal from `s` with its buffering or mode fields changed, and what else `sealFrame`
    reads (`finSendAAD`, `dig`) is not tracked here. -/
structure SendShape (s s' : Stream) (fs : List WireFrame) : Prop where
  key : s'.key = s.key
  iv : s'.encIV = s.encIV
  mode : s'.encrypted = s.encrypted
  out : (fs = [] ∧ s'.encCtr = s.encCtr) ∨
    (∃ d fl, fs = [⟨fl, d.length, .raw d⟩] ∧ s'.encCtr = s.encCtr ∧ s.crypting = false) ∨
    (∃ k, ∃ t : Stream, ∃ d fl, s.key = some k ∧ t.encIV = s.encIV ∧ t.encCtr = s.encCtr ∧
      s.encCtr ≠ counterLimit ∧ fs = [t.sealFrame k d fl] ∧ s'.encCtr = s.encCtr + 1)

theorem SendShape.silent {s s' : Stream} (hk : s'.key = s.key) (hi : s'.encIV = s.encIV)
    (hm : s'.encrypted = s.encrypted) (hc : s'.encCtr = s.encCtr) : SendShape s s' [] :=
  ⟨hk, hi, hm, .inl ⟨rfl, hc⟩⟩

/-- The shape of the inner call `t → t'` is one of the operation `s → u` around it, when `s, t` and
    `t', u` agree on (key, encIV, encCtr). `hm`: a cleartext inner send means `s` was not crypting
    (`PutSecret` turns the mode on first); `um`: the operation puts the mode back. -/
theorem SendShape.congr {s t t' u : Stream} {fs} (h : SendShape t t' fs)
    (hs : (t.key, t.encIV, t.encCtr) = (s.key, s.encIV, s.encCtr))
    (hu : (u.key, u.encIV, u.encCtr) = (t'.key, t'.encIV, t'.encCtr))
    (hm : t.crypting = false → s.crypting = false) (um : u.encrypted = s.encrypted) : SendShape s u fs := by
  rw [Prod.mk.injEq, Prod.mk.injEq] at hs hu
  obtain ⟨hk, hi, hc⟩ := hs
  obtain ⟨uk, ui, uc⟩ := hu
  refine ⟨uk.trans (h.key.trans hk), ui.trans (h.iv.trans hi), um, ?_⟩
  rcases h.out with ⟨e, c⟩ | ⟨d, fl, e, c, hcr⟩ | ⟨k, t0, d, fl, hk', ti, tc, hlim, e, c⟩
  · exact .inl ⟨e, uc.trans (c.trans hc)⟩
  · exact .inr (.inl ⟨d, fl, e, uc.trans (c.trans hc), hm hcr⟩)
  · exact .inr (.inr ⟨k, t0, d, fl, hk ▸ hk', ti.trans hi, tc.trans hc, hc ▸ hlim, e,
      uc.trans (c.trans (congrArg (· + 1) hc))⟩)

theorem sendFrame_shape {s s' : Stream} {d fl f} (h : s.sendFrame d fl = .ok (s', f)) : SendShape s s' [f] := by
  rcases sendFrame_ok h with ⟨hcr, rfl, rfl⟩ | ⟨k, hk, _, hctr, rfl, _, rfl⟩
  · exact ⟨rfl, rfl, rfl, .inr (.inl ⟨d, fl, rfl, rfl, hcr⟩)⟩
  · exact ⟨rfl, rfl, rfl, .inr (.inr ⟨k, s, d, fl, hk, rfl, rfl, hctr, rfl, rfl⟩)⟩

theorem writeMessage_shape {s s' : Stream} {d fs} (h : s.writeMessage d = .ok (s', fs)) :
    SendShape s s' fs := by
  obtain ⟨_, ⟨_, rfl, rfl⟩ | ⟨_, s1, f, hs, rfl, rfl⟩⟩ := writeMessage_ok.mp h
  · exact .silent rfl rfl rfl rfl
  · exact (sendFrame_shape hs).congr rfl rfl id (sendFrame_mode hs).1

theorem endMessage_shape {s s' : Stream} {fs} (h : s.endMessage = .ok (s', fs)) : SendShape s s' fs := by
  obtain ⟨_, s1, f, hs, rfl, rfl⟩ := endMessage_ok.mp h
  exact (sendFrame_shape hs).congr rfl rfl id (sendFrame_mode hs).1

/-- `PutSecret` seals whenever a key is held, whatever the mode, and puts the mode back -/
theorem putSecret_shape {s s' : Stream} {d f} (h : s.putSecret d = .ok (s', f)) : SendShape s s' [f] := by
  obtain ⟨s1, hs, rfl⟩ := putSecret_ok.mp h
  rw [prepareSecret_eq] at hs
  refine (sendFrame_shape hs).congr rfl rfl ?_ (sendFrame_mode hs).2
  unfold Stream.crypting
  cases s.key with
  | none => exact fun _ => rfl
  | some k => exact fun h => nomatch h

theorem getSecret_shape {s s' : Stream} {g d} (h : s.getSecret g = .ok (s', d)) : SendShape s s' [] := by
  obtain ⟨s1, p, hr, rfl, _⟩ := getSecret_ok.mp h
  rw [prepareSecret_eq] at hr
  obtain ⟨a, b, c, _, e⟩ := recvFrame_keeps_send_half hr
  exact .silent a b e c

theorem okOr_shape {α : Type} {s : Stream} {x : Except Err (Stream × α)} {emit : α → List WireFrame}
    (h : ∀ s' a, x = .ok (s', a) → SendShape s s' (emit a)) :
    SendShape s (okOr s x emit).1 (okOr s x emit).2 := by
  cases x with
  | error e => exact .silent rfl rfl rfl rfl
  | ok r => exact h r.1 r.2 rfl

/-- failed operations included: they change and emit nothing -/
theorem step_shape (s : Stream) (op : Op) :
    SendShape s (s.step op).1 (s.step op).2 ∨ ∃ on, op = .crypto on := by
  cases op with
  | send d fl => exact .inl (okOr_shape fun _ _ => sendFrame_shape)
  | write d => exact .inl (okOr_shape fun _ _ => writeMessage_shape)
  | endMsg => exact .inl (okOr_shape fun _ _ => endMessage_shape)
  | startMsg => exact .inl (.silent rfl rfl rfl rfl)
  | secret d => exact .inl (okOr_shape fun _ _ => putSecret_shape)
  | crypto on => exact .inr ⟨on, rfl⟩
  | recv g =>
    exact .inl (okOr_shape fun _ _ h => (recvFrameWithEnd_keeps_send_half h).elim fun a ⟨b, c, e, _⟩ => .silent a b e c)
  | recvPlain g =>
    exact .inl (okOr_shape fun _ _ h => (recvFrame_keeps_send_half h).elim fun a ⟨b, c, e, _⟩ => .silent a b e c)
  | getSecret g => exact .inl (okOr_shape fun _ _ => getSecret_shape)

structure SendSummary (s s' : Stream) (fs : List WireFrame) (n : Nat) : Prop where
  iv : s'.encIV = s.encIV
  key : s'.key = s.key
  ctr : s'.encCtr = s.encCtr + n
  bound : s.encCtr + n ≤ counterLimit
  /-- the key id `0` stands for "no key": such a stream seals nothing, `n = 0` -/
  nonces : fs.filterMap nonceOf = (List.range n).map (fun i => (s.key.getD 0, s.encIV.nonce (s.encCtr + i)))

theorem SendShape.summary {s s' : Stream} {fs} (hb : s.encCtr ≤ counterLimit) (h : SendShape s s' fs) :
    ∃ n, SendSummary s s' fs n := by
  obtain ⟨hk, hi, _, ⟨rfl, hc⟩ | ⟨d, fl, rfl, hc, _⟩ | ⟨k, t, d, fl, hsk, ti, tc, hlim, rfl, hc⟩⟩ := h
  · exact ⟨0, hi, hk, hc, hb, rfl⟩
  · exact ⟨0, hi, hk, hc, hb, rfl⟩
  · refine ⟨1, hi, hk, hc, Nat.succ_le_of_lt (Nat.lt_of_le_of_ne hb hlim), ?_⟩
    show [(k, t.encIV.nonce t.encCtr)] = [((s.key).getD 0, s.encIV.nonce (s.encCtr + 0))]
    rw [ti, tc, hsk]; rfl

theorem step_summary (s : Stream) (op : Op) (hb : s.encCtr ≤ counterLimit) :
    ∃ n, SendSummary s (s.step op).1 (s.step op).2 n := by
  rcases step_shape s op with h | ⟨on, rfl⟩
  · exact h.summary hb
  · refine ⟨0, (?_ : SendSummary s (s.setCryptoMode on).1 [] 0)⟩
    rw [setCryptoMode_fst]; exact ⟨rfl, rfl, rfl, hb, rfl⟩

theorem SendSummary.trans {s s1 s2 : Stream} {fs gs n1 n2}
    (h1 : SendSummary s s1 fs n1) (h2 : SendSummary s1 s2 gs n2) :
    SendSummary s s2 (fs ++ gs) (n1 + n2) := by
  refine ⟨h2.iv.trans h1.iv, h2.key.trans h1.key, by rw [h2.ctr, h1.ctr, Nat.add_assoc],
    by rw [← Nat.add_assoc, ← h1.ctr]; exact h2.bound, ?_⟩
  rw [List.filterMap_append, h1.nonces, h2.nonces, List.range_add, List.map_append, List.map_map]
  congr 1
  apply List.map_congr_left
  intro i _
  show (s1.key.getD 0, s1.encIV.nonce (s1.encCtr + i)) = (s.key.getD 0, s.encIV.nonce (s.encCtr + (n1 + i)))
  rw [h1.iv, h1.key, h1.ctr, Nat.add_assoc]

theorem run_summary : ∀ (ops : List Op) (s : Stream), s.encCtr ≤ counterLimit →
    ∃ n, SendSummary s (s.run ops).1 (s.run ops).2 n
  | [], s, hb => ⟨0, rfl, rfl, rfl, hb, rfl⟩
  | op :: rest, s, hb => by
    obtain ⟨n1, h1⟩ := step_summary s op hb
    obtain ⟨n2, h2⟩ := run_summary rest (s.step op).1 (h1.ctr ▸ h1.bound)
    exact ⟨n1 + n2, h1.trans h2⟩

end Cedar
