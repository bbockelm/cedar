/-
  For C13: the text / blob importers modelled elsewhere (claim-id session info, crypto-state blob)
  never reach a panicking operation.
-/
import CedarProofs.ClaimInfo
import CedarModel.Export
import CedarProofs.DecodeLemmas

namespace Cedar.Decode
open Cedar Cedar.Claim

theorem importItem_total (attrs : List (Bytes × Bytes)) (item : Bytes) : ∃ a, importItem attrs item = .ok a := by
  unfold importItem
  simp only
  split
  · exact ⟨_, rfl⟩
  · split
    · exact ⟨_, rfl⟩
    · exact ⟨_, rfl⟩
    · rw [unquote_ok]
      exact ⟨_, rfl⟩

theorem importItems_total : ∀ (items : List Bytes) (attrs : List (Bytes × Bytes)),
    ∃ a, importItems attrs items = .ok a := by
  intro items
  induction items with
  | nil => intro attrs; exact ⟨_, rfl⟩
  | cons it rest ih =>
    intro attrs
    obtain ⟨a, ha⟩ := importItem_total attrs it
    simp only [importItems, ha]
    exact ih a

theorem importAttrs_total (info : Bytes) : ∃ a, importAttrs info = .ok a := by
  unfold importAttrs
  split
  · exact ⟨_, rfl⟩
  · exact importItems_total _ _

theorem importInfo_np (info : Bytes) : importInfo info ≠ .error .panic := by
  unfold importInfo
  refine iteInduction (motive := (· ≠ Except.error Err.panic)) (fun _ => np_ok _) fun _ =>
    iteInduction (motive := (· ≠ Except.error Err.panic)) (fun _ => np_of_ne nofun) fun _ => ?_
  obtain ⟨a, ha⟩ := importAttrs_total info
  rw [ha]
  exact np_ok _

theorem readVar_np (b : Bytes) : readVar b ≠ .error .panic :=
  iteInduction (motive := (· ≠ Except.error Err.panic)) (fun _ => np_of_ne nofun) fun _ =>
    iteInduction (motive := (· ≠ Except.error Err.panic)) (fun _ => np_of_ne nofun) fun _ => np_ok _

theorem decodeBlob_np (b : Bytes) : decodeBlob b ≠ .error .panic := by
  unfold decodeBlob
  refine iteInduction (motive := (· ≠ Except.error Err.panic)) (fun _ => np_of_ne nofun) fun _ =>
    iteInduction (motive := (· ≠ Except.error Err.panic)) (fun _ => np_of_ne nofun) fun _ =>
    iteInduction (motive := (· ≠ Except.error Err.panic)) (fun _ => np_of_ne nofun) fun _ => ?_
  dsimp only
  split
  next e he => exact np_cast (he ▸ readVar_np _)
  next =>
    split
    next e he => exact np_cast (he ▸ readVar_np _)
    next =>
      split
      next e he => exact np_cast (he ▸ readVar_np _)
      next => exact np_ok _

theorem importBlob_np (b : Bytes) : importBlob b ≠ .error .panic := by
  unfold importBlob
  split
  next e he => exact np_cast (he ▸ decodeBlob_np b)
  next => exact np_ok _

end Cedar.Decode
