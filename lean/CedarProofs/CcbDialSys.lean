/-
  Helper lemmas for C20, part 2: proxied mode, and the invariant of the whole multi-broker Dial
  (every attempt keeps its own invariant under every interleaving; ids are distinct RNG draws;
  what Dial returns is what one of its attempts returned).  Dial only ever replaces an attempt by
  a successor (`Att.Succ`) or launches a new one, so `SInv.update` and `SInv.launch` carry it.
-/
import CedarProofs.CcbDialLemmas

namespace Cedar.Ccb

theorem proxyRequest_ok (id : Id) (reply : PReply) (hello : Greeting) :
    proxyRequest id reply hello = .ok () ↔
      (∃ a, reply = .ad a ∧ a.result = true) ∧ hello = .hello reverseConnectCmd id := by
  rw [← readHello_eq_some]
  unfold proxyRequest
  cases reply with
  | readErr => simp
  | ad a =>
    cases hr : a.result with
    | false => cases hu : a.unsupported <;> simp [hr, hu]
    | true =>
      cases hello with
      | hello cmd claim => cases h : readHello (.hello cmd claim) <;> simp [h, hr]
      | _ => simp [readHello, hr]

theorem dialProxy_ok (id : Id) (b : Broker) (req : Bool) (reply : PReply) (hello : Greeting) :
    dialProxy id b req reply hello = .ok () ↔
      b.up = true ∧ b.streamingOk = true ∧ (∃ a, reply = .ad a ∧ a.result = true) ∧
        hello = .hello reverseConnectCmd id := by
  unfold dialProxy
  cases hu : b.up with
  | false => simp
  | true =>
    cases hs : b.streamingOk with
    | false => cases req <;> simp
    | true => simpa using proxyRequest_ok id reply hello

theorem proxyRequestDial_ok (id : Id) (b : Broker) (reply : PReply) (hello : Greeting) :
    proxyRequestDial id b reply hello = .ok () ↔
      b.up = true ∧ b.streamingOk = true ∧ (∃ a, reply = .ad a ∧ a.result = true) ∧
        hello = .hello reverseConnectCmd id :=
  dialProxy_ok id b false reply hello

/-- the `.prx` arm is all there is to proxied mode: success only after the hello that carries the attempt's own id -/
def Att.Inv : Att → Prop
  | .std s => s.Inv
  | .prx id hello r => r = some (.ok ()) → hello = some (.hello reverseConnectCmd id)

/-- `t'` may stand where `t` stood; everything Dial does to a launched attempt yields such a successor -/
structure Att.Succ (t t' : Att) : Prop where
  inv : t.Inv → t'.Inv
  id_eq : t'.id = t.id
  result : ∀ r, t.result = some r → t'.result = some r

theorem Att.Succ.refl (t : Att) : t.Succ t := ⟨fun h => h, rfl, fun _ h => h⟩

theorem Att.succ_step (s : Std) (e : Ev) : (Att.std s).Succ (.std (s.step e)) :=
  have n := s.step_next e
  ⟨n.inv, n.id_eq, fun _ => n.result_stable⟩

theorem Att.succ_stepEv (ev : Ev) (t : Att) : t.Succ (t.stepEv ev) := by
  cases t with
  | std s => exact succ_step s ev
  | prx id hello r => exact .refl _

theorem Att.succ_runPrx (fp rq : Bool) (b : Broker) (reply : PReply) (hello : Greeting) (t : Att) :
    t.Succ (t.runPrx fp rq b reply hello) := by
  cases t with
  | std s => exact .refl _
  | prx id hl r =>
    cases r with
    | some r => exact .refl _
    | none =>
      refine ⟨fun _ hr => ?_, rfl, nofun⟩
      cases fp
      · rw [((proxyRequestDial_ok id b reply hello).mp (Option.some.inj hr)).2.2.2]
      · rw [((dialProxy_ok id b rq reply hello).mp (Option.some.inj hr)).2.2.2]

theorem Att.succ_cancel (t : Att) : t.Succ t.cancel := by
  cases t with
  | std s => exact succ_step s .cancel
  | prx id hl r =>
    cases r with
    | some r => exact .refl _
    | none => exact ⟨fun _ => nofun, rfl, nofun⟩

theorem modifyAt_eq_modify {α : Type} (l : List α) (i : Nat) (f : α → α) : modifyAt l i f = l.modify i f := by
  induction l generalizing i with
  | nil => rw [modifyAt, List.modify_nil]
  | cons x xs ih =>
    cases i with
    | zero => rw [modifyAt, List.modify_zero_cons]
    | succ i => rw [modifyAt, List.modify_succ_cons, ih]

/-- The invariant of `Dial`, over the components of a `Sys` it reads instead of over the `Sys`, so that a
    step that changes other components (`delivered`, `errs`, `ctxDone`) keeps it by `rfl`
    (`Sys.inv_step`).  `draws[a] = none`: attempt `a` failed before `GenerateConnectID`, and stays
    failed. -/
structure SInv (rng : Nat → Id) (atts : List Att) (draws : List (Option Nat)) (ctr : Nat)
    (result : Option (Except DErr (Nat × Nat))) : Prop where
  atts_inv : ∀ (a : Nat) (t : Att), atts[a]? = some t → t.Inv
  len : draws.length = atts.length
  ids : ∀ (a d : Nat) (t : Att), draws[a]? = some (some d) → atts[a]? = some t → t.id = rng d
  draw_lt : ∀ (a d : Nat), draws[a]? = some (some d) → d < ctr
  draw_mono : ∀ (a b i j : Nat), a < b → draws[a]? = some (some i) → draws[b]? = some (some j) → i < j
  res_att : ∀ (a k : Nat), result = some (.ok (a, k)) → ∃ t : Att, atts[a]? = some t ∧ t.result = some (.ok k)
  nodraw : ∀ (a : Nat) (t : Att), draws[a]? = some none → atts[a]? = some t → ∃ e, t.result = some (.error e)

def Sys.Inv (rng : Nat → Id) (y : Sys) : Prop := SInv rng y.atts y.draws y.ctr y.result

theorem SInv.update {rng atts atts' draws ctr result} (h : SInv rng atts draws ctr result)
    (g : Nat → Att → Att) (hg : ∀ a (t : Att), t.Succ (g a t)) (ha : ∀ a, atts'[a]? = (atts[a]?).map (g a))
    (hl : atts'.length = atts.length) : SInv rng atts' draws ctr result := by
  have back : ∀ {a t'}, atts'[a]? = some t' → ∃ t : Att, atts[a]? = some t ∧ t.Succ t' := fun {a t'} ht => by
    rw [ha, Option.map_eq_some_iff] at ht
    obtain ⟨t, h0, rfl⟩ := ht
    exact ⟨t, h0, hg a t⟩
  obtain ⟨a1, a2, a3, a4, a5, a6, a7⟩ := h
  refine ⟨fun a t' ht => ?_, a2.trans hl.symm, fun a d t' hd ht => ?_, a4, a5, fun a k hr => ?_, fun a t' hd ht => ?_⟩
  · obtain ⟨t, h0, hs⟩ := back ht
    exact hs.inv (a1 a t h0)
  · obtain ⟨t, h0, hs⟩ := back ht
    rw [hs.id_eq]
    exact a3 a d t hd h0
  · obtain ⟨t, ht, hres⟩ := a6 a k hr
    exact ⟨g a t, by rw [ha, ht]; rfl, (hg a t).result _ hres⟩
  · obtain ⟨t, h0, hs⟩ := back ht
    obtain ⟨e, he⟩ := a7 a t hd h0
    exact ⟨e, hs.result _ he⟩

theorem SInv.map {rng atts draws ctr result} (f : Att → Att) (h : SInv rng atts draws ctr result)
    (hf : ∀ t : Att, t.Succ (f t)) : SInv rng (atts.map f) draws ctr result :=
  h.update (fun _ => f) (fun _ => hf) (fun _ => List.getElem?_map) (List.length_map ..)

theorem SInv.modify_of_succ {rng atts draws ctr result} (f : Att → Att) (i : Nat) (h : SInv rng atts draws ctr result)
    (hf : ∀ t : Att, t.Succ (f t)) : SInv rng (modifyAt atts i f) draws ctr result := by
  rw [modifyAt_eq_modify]
  refine h.update (fun a t => if i = a then f t else t) (fun a t => ?_) (fun a => List.getElem?_modify ..)
    (List.length_modify ..)
  split
  · exact hf t
  · exact .refl t

theorem SInv.modify {rng atts draws ctr result} (f : Att → Att) (i : Nat) (h : SInv rng atts draws ctr result)
    (f1 : ∀ t, t.Inv → (f t).Inv) (f2 : ∀ t, (f t).id = t.id)
    (f3 : ∀ t r, t.result = some r → (f t).result = some r) : SInv rng (modifyAt atts i f) draws ctr result :=
  h.modify_of_succ f i fun t => ⟨f1 t, f2 t, f3 t⟩

theorem SInv.launch {rng atts draws ctr result} (h : SInv rng atts draws ctr result) (t : Att) (d : Option Nat)
    (ctr' : Nat) (hc : ctr ≤ ctr') (ht : t.Inv)
    (hd : ∀ i, d = some i → t.id = rng i ∧ ctr ≤ i ∧ i < ctr')
    (hn : d = none → ∃ e, t.result = some (.error e)) :
    SInv rng (atts ++ [t]) (draws ++ [d]) ctr' result := by
  obtain ⟨a1, a2, a3, a4, a5, a6, a7⟩ := h
  -- a position holds an old draw and an old attempt, or the new pair
  have pair : ∀ {a d' t'}, (draws ++ [d])[a]? = some d' → (atts ++ [t])[a]? = some t' →
      (draws[a]? = some d' ∧ atts[a]? = some t') ∨ (d = d' ∧ t = t') := fun hd' ht' => by
    rcases getElem?_snoc_eq_some.mp hd' with h1 | ⟨h1, e1⟩ <;> rcases getElem?_snoc_eq_some.mp ht' with h2 | ⟨h2, e2⟩
    · exact .inl ⟨h1, h2⟩
    · have := of_getElem?_eq_some h1; omega
    · have := of_getElem?_eq_some h2; omega
    · exact .inr ⟨e1, e2⟩
  refine ⟨fun a t' ht' => ?_, by simp [a2], fun a i t' hdi ht' => ?_, fun a i hdi => ?_,
    fun a b i j hab hi hj => ?_, fun a k hr => ?_, fun a t' hdi ht' => ?_⟩
  · rcases getElem?_snoc_eq_some.mp ht' with h' | ⟨-, rfl⟩
    · exact a1 a t' h'
    · exact ht
  · rcases pair hdi ht' with ⟨h1, h2⟩ | ⟨rfl, rfl⟩
    · exact a3 a i t' h1 h2
    · exact (hd i rfl).1
  · rcases getElem?_snoc_eq_some.mp hdi with h' | ⟨-, rfl⟩
    · exact Nat.lt_of_lt_of_le (a4 a i h') hc
    · exact (hd i rfl).2.2
  · rcases getElem?_snoc_eq_some.mp hi with hi' | ⟨rfl, -⟩ <;> rcases getElem?_snoc_eq_some.mp hj with hj' | ⟨rfl, rfl⟩
    · exact a5 a b i j hab hi' hj'
    · exact Nat.lt_of_lt_of_le (a4 a i hi') (hd j rfl).2.1
    · have := of_getElem?_eq_some hj'; omega
    · omega
  · obtain ⟨t', ht', hres⟩ := a6 a k hr
    exact ⟨t', getElem?_snoc_eq_some.mpr (.inl ht'), hres⟩
  · rcases pair hdi ht' with ⟨h1, h2⟩ | ⟨rfl, rfl⟩
    · exact a7 a t' h1 h2
    · exact hn rfl

theorem dialOne_ok {ctr : Nat} {c : Contact} {o : Opts} {l : Launch} (h : dialOne ctr c o = .ok l) :
    l.idDraw = ctr ∧ ctr < l.ctr := by
  unfold dialOne at h
  split at h
  · cases h
  · cases h; exact ⟨rfl, Nat.lt_succ_self _⟩
  · split at h <;> cases h
    · exact ⟨rfl, Nat.lt_succ_self _⟩
    · refine ⟨rfl, ?_⟩
      dsimp only
      split <;> omega

theorem Sys.inv_launch {rng : Nat → Id} {y : Sys} (h : y.Inv rng) : (y.launch rng).Inv rng := by
  unfold Sys.launch
  split
  · exact h
  · split
    next e he => exact SInv.launch h _ none y.ctr (Nat.le_refl _) nofun nofun fun _ => ⟨e, rfl⟩
    next l hl =>
      obtain ⟨h1, h2⟩ := dialOne_ok hl
      refine SInv.launch h _ (some l.idDraw) l.ctr (Nat.le_of_lt h2) ?_ (fun i hi => ?_) nofun
      · cases l.mode with
        | std => exact Std.inv_init _
        | _ => exact nofun
      · cases hi
        exact ⟨by cases l.mode <;> rfl, by omega, by omega⟩

theorem Sys.inv_ret {rng : Nat → Id} {y : Sys} {r : Except DErr (Nat × Nat)} (h : y.Inv rng)
    (hr : ∀ a k, r = .ok (a, k) → ∃ t, y.atts[a]? = some t ∧ t.result = some (.ok k)) :
    (y.ret r).Inv rng :=
  SInv.map Att.cancel { h with res_att := fun a k hk => hr a k (Option.some.inj hk) } Att.succ_cancel

theorem Sys.inv_init (rng : Nat → Id) (contacts : List Contact) (opts : Opts) (sq : Bool) :
    (Sys.init rng contacts opts sq).Inv rng := by
  unfold Sys.init
  apply Sys.inv_launch
  constructor <;> simp

theorem Sys.inv_step (rng : Nat → Id) (y : Sys) (e : DEv) (h : y.Inv rng) : (y.step rng e).Inv rng := by
  cases e with
  | att a ev => exact h.modify_of_succ _ a (Att.succ_stepEv ev)
  | prx a b reply hello => exact h.modify_of_succ _ a (Att.succ_runPrx _ _ b reply hello)
  | deliver a =>
    dsimp only [Sys.step]
    split
    · exact h
    by_cases hd : y.delivered.contains a = true
    · rw [if_pos hd]; exact h
    rw [if_neg hd]
    split
    · exact h
    · rename_i k hk
      refine Sys.inv_ret h fun a' k' hak => ?_
      cases hak
      exact Option.bind_eq_some_iff.mp hk
    · rename_i e he
      -- `delivered` and `errs` are not read by the invariant
      have h1 : ({ y with delivered := a :: y.delivered, errs := y.errs ++ [e] } : Sys).Inv rng := h
      by_cases hc : y.atts.length < y.contacts.length
      · rw [if_pos hc]
        split
        · exact Sys.inv_ret (Sys.inv_launch h1) nofun
        · exact Sys.inv_launch h1
      · rw [if_neg hc]
        split
        · exact Sys.inv_ret h1 nofun
        · exact h1
  | stagger =>
    dsimp only [Sys.step]
    split
    · exact h
    split
    · exact Sys.inv_launch h
    · exact h
  | cancel =>
    dsimp only [Sys.step]
    split
    · exact h
    · exact SInv.map Att.cancel h Att.succ_cancel
  | pickCtx =>
    dsimp only [Sys.step]
    split
    · exact h
    split
    · exact Sys.inv_ret h nofun
    · exact h

theorem Sys.run_init (rng : Nat → Id) (contacts : List Contact) (opts : Opts) (sq : Bool) (evs : List DEv) :
    ((Sys.init rng contacts opts sq).run rng evs).Inv rng :=
  List.foldlRecOn evs (Sys.step rng) (Sys.inv_init rng contacts opts sq) fun y hy e _ => Sys.inv_step rng y e hy

theorem Sys.result_stable (rng : Nat → Id) (y : Sys) (e : DEv) {r} (h : y.result = some r) :
    (y.step rng e).result = some r := by
  cases e <;> simp only [Sys.step, h]

end Cedar.Ccb
