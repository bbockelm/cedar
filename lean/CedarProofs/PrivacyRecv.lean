/-
  C09, what is on the wire and what the receiver makes of it. The frames `sendAd` emits decompose
  into runs of equally protected frames whose payloads are the reference encodings of the items
  (`sender_chunks`). Which bytes travel protected is read off that decomposition, and so is the
  round trip: `recvAd` pulls a frame only when its buffer runs dry, so the crypto toggle of
  `getSecretString` always meets a frame boundary. The `_view` lemmas are CodecStr's `getString_spec`
  over `View` instead of `Dec.pending`: this decoder's frames carry a protection tag.
  `C09.secret_roundtrip` is stated with `expectedExprs`.
-/
import CedarProofs.PrivacyLemmas
import CedarProofs.CodecPut

namespace Cedar.Privacy
open Cedar

def flat (seg : List PFrame) : Bytes := (seg.map (·.payload)).flatten

@[simp] theorem flat_nil : flat [] = [] := rfl
@[simp] theorem flat_cons (f : PFrame) (r : List PFrame) : flat (f :: r) = f.payload ++ flat r := by simp [flat]
@[simp] theorem flat_append (a b : List PFrame) : flat (a ++ b) = flat a ++ flat b := by simp [flat]

/-- `seg` is a run of frames with protection `c`, as the receiver needs it: a frame that carries the
    end-of-message flag is the last one, and of the message's last run (`fin`); the last frame of
    any other run is not empty, so that whoever has read the run's bytes has pulled all its frames -/
def IsRun (c fin : Bool) : List PFrame → Prop
  | [] => True
  | f :: r => f.sealed = c ∧ (f.eom = true → r = [] ∧ fin = true) ∧ (fin = false → r = [] → f.payload ≠ []) ∧
      IsRun c fin r

theorem IsRun.eq_nil_of_flat {c : Bool} : ∀ {seg : List PFrame}, IsRun c false seg → flat seg = [] → seg = []
  | [], _, _ => rfl
  | f :: r, h, hf => by
    obtain ⟨hp, hr⟩ := List.append_eq_nil_iff.mp (flat_cons f r ▸ hf)
    exact absurd hp (h.2.2.1 rfl (IsRun.eq_nil_of_flat h.2.2.2 hr))

theorem IsRun.sealed {c fin : Bool} : ∀ {seg : List PFrame}, IsRun c fin seg → ∀ f ∈ seg, f.sealed = c
  | _ :: _, h, f, hf => (List.mem_cons.mp hf).elim (fun hfg => hfg ▸ h.1) (IsRun.sealed h.2.2.2 f)

theorem IsRun.snoc {c fin : Bool} {last : PFrame} (h1 : last.sealed = c) (h2 : fin = false → last.payload ≠ [])
    (h3 : last.eom = true → fin = true) : ∀ cur : List PFrame, (∀ f ∈ cur, f.sealed = c ∧ f.eom = false) →
    IsRun c fin (cur ++ [last])
  | [], _ => ⟨h1, fun he => ⟨rfl, h3 he⟩, fun hf _ => h2 hf, trivial⟩
  | f :: r, hc =>
    have ⟨hf, hr⟩ := List.forall_mem_cons.mp hc
    ⟨hf.1, fun he => absurd (hf.2 ▸ he) nofun, fun _ hr => absurd hr (by simp), IsRun.snoc h1 h2 h3 r hr⟩

/-- a run's protection and its payload bytes -/
abbrev Chunk := Bool × Bytes

/-! The runs a list of items is emitted as, when ordinary frames have protection `z` and strings
  mode `m`: consecutive ordinary values share a run; a secret closes the run with the marker, forms
  a protected run of its own, and opens a new one. `firstRun` is the payload of the run the list
  starts in (whoever wrote before may have left bytes in it), `laterRuns` the runs after that one. -/

def firstRun (m : Bool) : List Item → Bytes
  | [] => []
  | .val v :: r => Spec.enc m v ++ firstRun m r
  | .secret _ :: _ => Spec.enc m (.str marker)

def laterRuns (z m : Bool) : List Item → List Chunk
  | [] => []
  | .val _ :: r => laterRuns z m r
  | .secret e :: r => (true, Spec.enc true (.str e)) :: (z, firstRun m r) :: laterRuns z m r

/-- the frame list is one run per chunk, in order; only the last run may end the message -/
def Chunks : List Chunk → List PFrame → Prop
  | [], fs => fs = []
  | (z, B) :: rest, fs => ∃ seg more, fs = seg ++ more ∧ IsRun z rest.isEmpty seg ∧ flat seg = B ∧ Chunks rest more

theorem Chunks.cons {z : Bool} {cur : List PFrame} {last : PFrame} {B : Bytes} {rest : List Chunk} {more : List PFrame}
    (hcur : ∀ f ∈ cur, f.sealed = z ∧ f.eom = false) (hz : last.sealed = z)
    (hne : rest.isEmpty = false → last.payload ≠ []) (he : last.eom = true → rest.isEmpty = true)
    (hB : flat cur ++ last.payload = B) (hr : Chunks rest more) :
    Chunks ((z, B) :: rest) (cur ++ last :: more) :=
  ⟨cur ++ [last], more, by simp, IsRun.snoc hz hne he cur hcur, by simpa using hB, hr⟩

theorem flat_tag (z : Bool) (fs : List OutFrame) : flat (tagFrames z fs) = (fs.map (·.1)).flatten := by
  simp [flat, tagFrames, Function.comp_def]

theorem sealed_of_mem_tag {z : Bool} {fs : List OutFrame} {g : PFrame} (h : g ∈ tagFrames z fs) : g.sealed = z := by
  obtain ⟨_, _, rfl⟩ := List.mem_map.mp h
  rfl

theorem tag_partial (z : Bool) (fs : List OutFrame) (h : ∀ f ∈ fs, f.2 = false) :
    ∀ g ∈ tagFrames z fs, g.sealed = z ∧ g.eom = false :=
  List.forall_mem_map.mpr fun f hf => ⟨rfl, h f hf⟩

theorem put_in_run (z m : Bool) (cur : List PFrame) (buf : Bytes) (v : Val) (hv : v.wf)
    (hcur : ∀ f ∈ cur, f.sealed = z ∧ f.eom = false) :
    (∀ f ∈ cur ++ tagFrames z (putVal m buf v).2, f.sealed = z ∧ f.eom = false) ∧
    flat (cur ++ tagFrames z (putVal m buf v).2) ++ (putVal m buf v).1 = flat cur ++ buf ++ Spec.enc m v := by
  refine ⟨List.forall_mem_append.mpr ⟨hcur, tag_partial z _ (partial_putVal m buf v)⟩, ?_⟩
  have hw := wireBytes_putVal m buf v hv
  unfold wireBytes at hw
  rw [flat_append, flat_tag, List.append_assoc, hw, List.append_assoc]

/-- `cur` are the frames of the current run written earlier, `buf` what is buffered -/
theorem sender_chunks (z m : Bool) : ∀ (its : List Item) (s : Stream) (buf : Bytes) (cur : List PFrame),
    s.crypting = z → s.encrypted = m → (∀ e, Item.secret e ∈ its → MarkerState s) → (∀ it ∈ its, it.wf) →
    (∀ f ∈ cur, f.sealed = z ∧ f.eom = false) →
    Chunks ((z, flat cur ++ buf ++ firstRun m its) :: laterRuns z m its)
      (cur ++ ((emitItems s buf its).2.2 ++ [flushOn (emitItems s buf its).1 (emitItems s buf its).2.1 true])) := by
  intro its
  induction its with
  | nil =>
    intro s buf cur hz _ _ _ hcur
    exact Chunks.cons hcur hz nofun (fun _ => rfl) (List.append_nil _).symm rfl
  | cons it r ih =>
    intro s buf cur hz hm hsec hwf hcur
    obtain ⟨hwf0, hwf'⟩ := List.forall_mem_cons.mp hwf
    cases it with
    | val v =>
      obtain ⟨hcur', hacc'⟩ := put_in_run z m cur buf v hwf0 hcur
      have := ih s (putVal m buf v).1 _ hz hm (fun e he => hsec e (List.mem_cons_of_mem _ he)) hwf' hcur'
      rw [hacc'] at this
      simp only [firstRun, laterRuns, emitItems, emitItem, putOn, hz, hm]
      simpa [List.append_assoc] using this
    | secret e =>
      have hs : MarkerState s := hsec e (List.mem_cons_self ..)
      obtain rfl : z = false := hz.symm.trans hs.crypting
      obtain rfl : m = false := hm.symm.trans hs.clear
      obtain ⟨he1, hc1, hr1⟩ := hs.prepare
      obtain ⟨hcur1, hacc1⟩ := put_in_run false false cur buf (.str marker) marker_wf hcur
      obtain ⟨hcur2, hacc2⟩ := put_in_run true true [] [] (.str e) hwf0 nofun
      have hrest := ih s.prepareSecret.restoreSecret [] [] hr1.crypting hr1.clear (fun _ _ => hr1) hwf' nofun
      -- the marker closes the current run, the secret is a protected run of its own
      have := Chunks.cons hcur1 (last := flushOn s (putVal false buf (.str marker)).1 false) hs.crypting
        (fun _ => putString_buf_ne false buf marker) nofun hacc1
        (Chunks.cons hcur2 (last := flushOn s.prepareSecret (putVal true [] (.str e)).1 false) hc1
          (fun _ => putString_buf_ne true [] e) nofun hacc2 hrest)
      simp only [firstRun, laterRuns, emitItems, emitItem, putSecretExpr, putOn, hs.crypting, hs.clear, he1, hc1]
      simpa [List.append_assoc] using this

theorem sendAd_chunks (ev : Eval) (c : Config) (s : Stream) (ad : Ad) (hw : ∀ it ∈ items ev c s ad, it.wf) :
    Chunks ((s.crypting, firstRun s.encrypted (items ev c s ad)) ::
      laterRuns s.crypting s.encrypted (items ev c s ad)) (sendAd ev c s ad) := by
  have := sender_chunks s.crypting s.encrypted (items ev c s ad) s [] [] rfl rfl (fun _ => markerState_of_secret) hw nofun
  rwa [List.nil_append] at this

theorem emitItem_crypting (s : Stream) (buf : Bytes) (h : s.crypting = true) : ∀ it : Item,
    (emitItem s buf it).1.crypting = true ∧ ∀ f ∈ (emitItem s buf it).2.2, f.sealed = true
  | .val v => ⟨h, fun f hf => h ▸ sealed_of_mem_tag hf⟩
  | .secret e => by
    have hp : s.prepareSecret.crypting = true := by
      rw [prepareSecret_eq]; simp [Stream.crypting, (Bool.and_eq_true_iff.mp h).1]
    have hr : s.prepareSecret.restoreSecret.crypting = true := by rw [prepareSecret_eq]; exact h
    refine ⟨hr, fun f hf => ?_⟩
    simp only [emitItem, putSecretExpr, putOn, List.mem_append, List.mem_singleton] at hf
    rcases hf with ((hf | rfl) | hf) | rfl
    · exact h ▸ sealed_of_mem_tag hf
    · exact h
    · exact hp ▸ sealed_of_mem_tag hf
    · exact hp

theorem emitItems_crypting : ∀ (its : List Item) (s : Stream) (buf : Bytes), s.crypting = true →
    (emitItems s buf its).1.crypting = true ∧ ∀ f ∈ (emitItems s buf its).2.2, f.sealed = true := by
  intro its
  induction its with
  | nil => exact fun _ _ h => ⟨h, nofun⟩
  | cons it r ih =>
    intro s buf h
    obtain ⟨h1, h2⟩ := emitItem_crypting s buf h it
    obtain ⟨g1, g2⟩ := ih _ (emitItem s buf it).2.1 h1
    exact ⟨g1, List.forall_mem_append.mpr ⟨h2, g2⟩⟩

def bytesOf (b : Bool) (cs : List Chunk) : Bytes := ((cs.filter (·.1 == b)).map (·.2)).flatten

@[simp] theorem bytesOf_cons (b z : Bool) (B : Bytes) (cs : List Chunk) :
    bytesOf b ((z, B) :: cs) = (if z == b then B else []) ++ bytesOf b cs := by
  cases h : z == b <;> simp [bytesOf, h]

theorem filter_sealed {c : Bool} {seg : List PFrame} (h : ∀ f ∈ seg, f.sealed = c) (b : Bool) :
    seg.filter (·.sealed == b) = if c == b then seg else [] := by
  cases hcb : c == b
  · exact List.filter_eq_nil_iff.mpr fun f hf => by simp [h f hf, hcb]
  · exact List.filter_eq_self.mpr fun f hf => by simp [h f hf, hcb]

theorem Chunks.bytes (b : Bool) : ∀ {cs : List Chunk} {fs : List PFrame}, Chunks cs fs →
    flat (fs.filter (·.sealed == b)) = bytesOf b cs := by
  intro cs
  induction cs with
  | nil => intro fs h; rw [show fs = [] from h]; rfl
  | cons c rest ih =>
    intro fs h
    obtain ⟨z, B⟩ := c
    obtain ⟨seg, more, rfl, hs, rfl, hr⟩ := h
    rw [List.filter_append, flat_append, ih hr, filter_sealed (IsRun.sealed hs), bytesOf_cons, apply_ite flat, flat_nil]

theorem Chunks.clear_eq {cs : List Chunk} {fs : List PFrame} (h : Chunks cs fs) : clearBytes fs = bytesOf false cs := by
  rw [← h.bytes false]; simp [clearBytes, flat]

theorem Chunks.sealed_eq {cs : List Chunk} {fs : List PFrame} (h : Chunks cs fs) : sealedBytes fs = bytesOf true cs := by
  rw [← h.bytes true]; simp [sealedBytes, flat]

/-- the marker path: `z = m = false` -/
theorem runs_bytes : ∀ its : List Item,
    firstRun false its ++ bytesOf false (laterRuns false false its) = Spec.encAll false (its.map Item.clearVal) ∧
    bytesOf true (laterRuns false false its) = Spec.encAll true (secretVals its) := by
  intro its
  induction its with
  | nil => exact ⟨rfl, rfl⟩
  | cons it r ih => cases it <;> simpa [firstRun, laterRuns, Spec.encAll, Item.clearVal, secretVals] using ih

/-- the decoder is inside a run of protection `z` that the chunks `rest` follow: `B` are the bytes
    it can still read from the run (its buffer, then the run's frames not yet pulled) -/
def View (z : Bool) (d : RDec) (B : Bytes) (rest : List Chunk) : Prop :=
  ∃ seg post, d.src = seg ++ post ∧ IsRun z rest.isEmpty seg ∧ d.buf ++ flat seg = B ∧
    (d.eom = true → seg = [] ∧ rest.isEmpty = true) ∧ Chunks rest post

theorem View.init {z : Bool} {B : Bytes} {rest : List Chunk} {fs : List PFrame} (h : Chunks ((z, B) :: rest) fs) :
    View z ⟨[], false, fs⟩ B rest := by
  obtain ⟨seg, more, hfs, hs, hB, hr⟩ := h
  exact ⟨seg, more, hfs, hs, hB, nofun, hr⟩

/-- where the crypto toggle of a secret meets a frame boundary: the run's bytes read, the buffer is
    empty and the next frame pulled is the first of the next run -/
theorem View.next {z z' : Bool} {d : RDec} {B : Bytes} {rest : List Chunk} (h : View z d [] ((z', B) :: rest)) :
    View z' d B rest := by
  obtain ⟨seg, post, hsrc, hs, hB, he, seg', more, rfl, hs', rfl, hr⟩ := h
  obtain ⟨hbuf, hflat⟩ := List.append_eq_nil_iff.mp hB
  obtain rfl := IsRun.eq_nil_of_flat hs hflat
  exact ⟨seg', more, hsrc, hs', by rw [hbuf]; rfl, fun hd => Bool.noConfusion (he hd).2, hr⟩

theorem need_run (z : Bool) (n : Nat) {rest : List Chunk} {post : List PFrame} (hpost : Chunks rest post) :
    ∀ (seg : List PFrame) (buf : Bytes) (eom : Bool), IsRun z rest.isEmpty seg →
    (eom = true → seg = [] ∧ rest.isEmpty = true) → n ≤ (buf ++ flat seg).length →
    ∃ d', need z n buf eom (seg ++ post) = .ok d' ∧ View z d' (buf ++ flat seg) rest ∧ n ≤ d'.buf.length := by
  intro seg
  induction seg with
  | nil =>
    intro buf eom _ he hn
    rw [flat_nil, List.append_nil] at hn ⊢
    have hl : lenGe buf n = true := (lenGe_iff _ _).mpr hn
    refine ⟨⟨buf, eom, post⟩, ?_, ⟨[], post, rfl, trivial, List.append_nil _, he, hpost⟩, hn⟩
    cases post <;> simp [need, hl]
  | cons f r ih =>
    intro buf eom hs he hn
    by_cases hl : lenGe buf n = true
    · exact ⟨⟨buf, eom, (f :: r) ++ post⟩, by simp [need, hl], ⟨f :: r, post, rfl, hs, rfl, he, hpost⟩,
        (lenGe_iff _ _).mp hl⟩
    · have heom : eom = false := Bool.eq_false_iff.mpr fun h => List.cons_ne_nil _ _ (he h).1
      obtain ⟨hf, hfe, -, hr⟩ := hs
      have hstep : need z n buf eom ((f :: r) ++ post) = need z n (buf ++ f.payload) f.eom (r ++ post) := by
        simp [need, hl, heom, hf]
      rw [flat_cons, ← List.append_assoc] at hn ⊢
      rw [hstep]
      exact ih (buf ++ f.payload) f.eom hr hfe hn

theorem View.read {z : Bool} {d : RDec} {B : Bytes} {rest : List Chunk} (h : View z d B rest)
    (n : Nat) (hn : n ≤ B.length) :
    ∃ d1, need z n d.buf d.eom d.src = .ok d1 ∧ d1.buf.take n = B.take n ∧
      View z { d1 with buf := d1.buf.drop n } (B.drop n) rest := by
  obtain ⟨seg, post, hsrc, hs, rfl, he, hpost⟩ := h
  obtain ⟨d1, hok, ⟨seg1, post1, hsrc1, hs1, hB1, he1, hpost1⟩, hl⟩ := need_run z n hpost seg d.buf d.eom hs he hn
  refine ⟨d1, hsrc ▸ hok, ?_, seg1, post1, hsrc1, hs1, ?_, he1, hpost1⟩
  · rw [← hB1, List.take_append_of_le_length hl]
  · rw [← hB1, List.drop_append_of_le_length hl]

/-- also takes `h` with `be64 (toU64 x)` (`getLStrP_view`) or another mode: `Spec.enc _ (.int x)` unfolds to that. Not for `rw`. -/
theorem getInt_view {z : Bool} {d : RDec} {x : Int} {B : Bytes} {rest : List Chunk}
    (h : View z d (Spec.enc false (.int x) ++ B) rest) (hx : (Val.int x).wf) :
    ∃ d', d.getInt z = .ok (x, d') ∧ View z d' B rest := by
  obtain ⟨d1, hok, htake, hv⟩ := h.read 8 (by simp [Spec.enc])
  rw [Spec.enc, List.take_left' (length_be64 _)] at htake
  rw [Spec.enc, List.drop_left' (length_be64 _)] at hv
  exact ⟨_, by simp only [RDec.getInt, hok, htake, ofU64_beVal_be64_toU64 x hx.1 hx.2], hv⟩

theorem splitNul_append (a b : Bytes) : splitNul (a ++ b) =
    match splitNul a with
    | some (s, t) => some (s, t ++ b)
    | none => (splitNul b).map fun st => (a ++ st.1, st.2) := by
  induction a with
  | nil => cases h : splitNul b <;> simp [splitNul, h]
  | cons x r ih =>
    by_cases hx : x = 0
    · simp [splitNul, hx]
    · simp only [List.cons_append, splitNul, hx, if_false, ih]
      cases splitNul r with
      | some st => rfl
      | none => cases splitNul b <;> rfl

theorem splitNul_none : ∀ (s : Bytes), (∀ b ∈ s, b ≠ 0) → splitNul s = none := by
  intro s
  induction s with
  | nil => intro _; rfl
  | cons b r ih =>
    intro h
    have hb : b ≠ 0 := h b (List.mem_cons_self ..)
    simp [splitNul, hb, ih (fun x hx => h x (List.mem_cons_of_mem _ hx))]

theorem splitNul_some (s t : Bytes) (h : ∀ b ∈ s, b ≠ 0) : splitNul (s ++ 0 :: t) = some (s, t) := by
  simp [splitNul_append, splitNul_none s h, splitNul]

theorem getCStrP_run (z : Bool) {rest : List Chunk} {post : List PFrame} (hpost : Chunks rest post) :
    ∀ (seg : List PFrame) (acc buf : Bytes) (eom : Bool) (s B' : Bytes), IsRun z rest.isEmpty seg →
    splitNul (buf ++ flat seg) = some (s, B') → (eom = true → seg = [] ∧ rest.isEmpty = true) →
    ∃ d', getCStrP z acc buf eom (seg ++ post) = .ok (acc ++ s, d') ∧ View z d' B' rest := by
  intro seg
  induction seg with
  | nil =>
    intro acc buf eom s B' _ hB he
    simp only [flat_nil, List.append_nil] at hB
    exact ⟨⟨B', eom, post⟩, by cases post <;> simp [getCStrP, hB], [], post, rfl, trivial, List.append_nil _, he, hpost⟩
  | cons f r ih =>
    intro acc buf eom s B' hs hB he
    rw [splitNul_append] at hB
    cases hb : splitNul buf with
    | some st =>
      -- the terminator is already buffered
      simp only [hb, Option.some.injEq, Prod.mk.injEq] at hB
      exact ⟨⟨st.2, eom, (f :: r) ++ post⟩, by simp [getCStrP, hb, hB.1], f :: r, post, rfl, hs, hB.2, he, hpost⟩
    | none =>
      -- the buffer is a prefix of the string: pull the next frame of the run
      simp only [hb, Option.map_eq_some_iff] at hB
      obtain ⟨⟨s', t'⟩, hB, hst⟩ := hB
      simp only [Prod.mk.injEq] at hst
      obtain ⟨rfl, rfl⟩ := hst
      have heom : eom = false := Bool.eq_false_iff.mpr fun h => List.cons_ne_nil _ _ (he h).1
      obtain ⟨hf, hfe, -, hr⟩ := hs
      obtain ⟨d', hok, hv⟩ := ih (acc ++ buf) f.payload f.eom s' t' hr (by simpa using hB) hfe
      exact ⟨d', by simp [getCStrP, hb, heom, hf, hok, List.append_assoc], hv⟩

theorem getCStrP_view {z : Bool} {d : RDec} {s B' : Bytes} {rest : List Chunk}
    (h : View z d (s ++ 0 :: B') rest) (hnz : ∀ b ∈ s, b ≠ 0) :
    ∃ d', getCStrP z [] d.buf d.eom d.src = .ok (s, d') ∧ View z d' B' rest := by
  obtain ⟨seg, post, hsrc, hs, hB, he, hpost⟩ := h
  rw [hsrc]
  simpa using getCStrP_run z hpost seg [] d.buf d.eom s B' hs (hB ▸ splitNul_some s B' hnz) he

theorem getLStrP_view {z : Bool} {d : RDec} {s B' : Bytes} {rest : List Chunk}
    (h : View z d (be64 (s.length + 1) ++ (s ++ 0 :: B')) rest)
    (hlen : s.length + 1 < 2^31) (hfirst : s.head? ≠ some binNullChar) :
    ∃ d', getLStrP z d = .ok (s, d') ∧ View z d' B' rest := by
  rw [← toU64_nat (s.length + 1) (by omega)] at h
  obtain ⟨d1, hok1, hv1⟩ := getInt_view h ⟨by omega, by omega⟩
  rw [show s ++ 0 :: B' = (s ++ [0]) ++ B' by simp] at hv1
  obtain ⟨d2, hok2, htake, hv2⟩ := hv1.read (s.length + 1) (by simp)
  rw [List.take_left' (by simp)] at htake
  rw [List.drop_left' (by simp)] at hv2
  refine ⟨_, ?_, hv2⟩
  simp only [getLStrP, hok1, toI32_small _ hlen, Int.toNat_natCast, hok2, htake,
    show ¬ (((s.length + 1 : Nat) : Int) < 0) by omega, if_false]
  exact encStrValue_snoc (fun v => Except.ok (v, _)) hfirst

theorem getString_view {r : Stream} {d : RDec} {z m : Bool} {x B : Bytes} {rest : List Chunk}
    (hz : r.crypting = z) (hm : r.encrypted = m)
    (h : View z d (Spec.enc m (.str x) ++ B) rest) (hx : (Val.str x).wf) :
    ∃ d', d.getString r = .ok (x, d') ∧ View z d' B rest := by
  unfold RDec.getString
  rw [hm, hz]
  cases m with
  | false => exact getCStrP_view (by simpa [Spec.enc] using h) hx.1
  | true => exact getLStrP_view (by simpa [Spec.enc] using h) hx.2.1 hx.2.2

def Item.isExpr : Item → Prop
  | .val (.str x) => x ≠ marker
  | .val _ => False
  | .secret _ => True

/-- the string the receiver ends up with for an expression item -/
def Item.exprOf : Item → Bytes
  | .val (.str x) => x
  | .val _ => []
  | .secret e => e

/-- for a secret: the marker from the current run, then (crypto toggled) the expression from the
    protected run, then back at the start of the next unprotected run -/
theorem recvExprs_view {z m : Bool} {r : Stream} {tl : List Item} (hz : r.crypting = z) (hm : r.encrypted = m) :
    ∀ (eits : List Item) (d : RDec), (∀ e, Item.secret e ∈ eits → MarkerState r) →
      (∀ it ∈ eits, it.wf ∧ it.isExpr) → View z d (firstRun m (eits ++ tl)) (laterRuns z m (eits ++ tl)) →
      ∃ d', recvExprs r eits.length d = .ok (eits.map Item.exprOf, d') ∧
        View z d' (firstRun m tl) (laterRuns z m tl) := by
  intro eits
  induction eits with
  | nil => intro d _ _ h; exact ⟨d, rfl, h⟩
  | cons it rest ih =>
    intro d hsec hall hv
    obtain ⟨hit, hall'⟩ := List.forall_mem_cons.mp hall
    have hsec' : ∀ e, Item.secret e ∈ rest → MarkerState r := fun e he => hsec e (List.mem_cons_of_mem _ he)
    cases it with
    | val v =>
      cases v with
      | int x => exact hit.2.elim
      | char x => exact hit.2.elim
      | str x =>
        obtain ⟨d1, hok1, hv1⟩ := getString_view hz hm hv hit.1
        obtain ⟨d2, hok2, hv2⟩ := ih d1 hsec' hall' hv1
        have hne : x ≠ marker := hit.2
        exact ⟨d2, by simp [recvExprs, hok1, hne, hok2, Item.exprOf], hv2⟩
    | secret e =>
      have hs : MarkerState r := hsec e (List.mem_cons_self ..)
      obtain rfl : z = false := hz.symm.trans hs.crypting
      obtain rfl : m = false := hm.symm.trans hs.clear
      obtain ⟨he1, hc1, _⟩ := hs.prepare
      obtain ⟨d1, hok1, hv1⟩ := getString_view (B := []) hz hm (by simpa [firstRun, laterRuns] using hv) marker_wf
      obtain ⟨d2, hok2, hv2⟩ := getString_view (B := []) hc1 he1 (by simpa using hv1.next) hit.1
      obtain ⟨d3, hok3, hv3⟩ := ih d2 hsec' hall' hv2.next
      exact ⟨d3, by simp [recvExprs, hok1, hok2, hok3, Item.exprOf], hv3⟩

/-- the expression strings an honest receiver must end up with -/
def expectedExprs (c : Config) (ad : Ad) : List Bytes :=
  (if hasOpt c.options optServerTime then [serverTimePrefix ++ intDecimal c.now] else [])
    ++ (attrsToSend c ad).map exprStr

def exprItems (c : Config) (s : Stream) (ad : Ad) : List Item :=
  (if hasOpt c.options optServerTime then [Item.val (.str (serverTimePrefix ++ intDecimal c.now))] else [])
    ++ (attrsToSend c ad).map (attrItem (!secretIsNoop s) c.encryptedAttrs)

theorem ne_marker_of_blank {x : Bytes} (h : (32 : UInt8) ∈ x) : x ≠ marker := by
  rintro rfl
  revert h; decide

theorem attrItem_exprOf (b : Bool) (enc : List Bytes) (a : Attr) : (attrItem b enc a).exprOf = exprStr a := by
  unfold attrItem
  split <;> rfl

theorem attrItem_isExpr (b : Bool) (enc : List Bytes) (a : Attr) : (attrItem b enc a).isExpr := by
  unfold attrItem
  split
  · trivial
  · exact ne_marker_of_blank (List.mem_append_left _ (List.mem_append_right _ (by decide)))

theorem exprItems_exprOf (c : Config) (s : Stream) (ad : Ad) :
    (exprItems c s ad).map Item.exprOf = expectedExprs c ad := by
  unfold exprItems expectedExprs
  rw [List.map_append, List.map_map, (funext (attrItem_exprOf _ _) : Item.exprOf ∘ attrItem _ _ = exprStr)]
  split <;> rfl

theorem exprItems_isExpr (c : Config) (s : Stream) (ad : Ad) : ∀ it ∈ exprItems c s ad, it.isExpr := by
  refine List.forall_mem_append.mpr ⟨?_, List.forall_mem_map.mpr fun a _ => attrItem_isExpr _ _ a⟩
  split
  · exact List.forall_mem_singleton.mpr (ne_marker_of_blank (List.mem_append_left _ (by decide)))
  · exact nofun

/-- the count the code writes first -/
theorem exprItems_length (c : Config) (s : Stream) (ad : Ad) : ((exprItems c s ad).length : Int) =
    (attrsToSend c ad).length + (if hasOpt c.options optServerTime then 1 else 0) := by
  unfold exprItems
  cases hasOpt c.options optServerTime
  · simp
  · simp [Int.add_comm]

theorem items_split (ev : Eval) (c : Config) (s : Stream) (ad : Ad) (hty : hasOpt c.options optNoTypes = false) :
    items ev c s ad = Item.val (.int ((exprItems c s ad).length : Nat))
      :: (exprItems c s ad ++ typeItems ev (typeView ad c.encryptedAttrs)) := by
  rw [exprItems_length]
  simp only [items, itemsWith, exprItems, hty, Bool.false_eq_true, if_false, List.nil_append,
    List.cons_append, List.append_assoc]

/-- `hty`: `recvAd` reads the two type strings unconditionally -/
theorem recvAd_sendAd (ev : Eval) (c : Config) (s r : Stream) (ad : Ad)
    (hk : r.key.isSome = s.key.isSome) (he : r.encrypted = s.encrypted)
    (hty : hasOpt c.options optNoTypes = false) (hw : ∀ it ∈ items ev c s ad, it.wf) :
    ∃ d', recvAd r ⟨[], false, sendAd ev c s ad⟩ =
      .ok (⟨expectedExprs c ad, (ev (typeView ad c.encryptedAttrs) myTypeName).getD [],
            (ev (typeView ad c.encryptedAttrs) targetTypeName).getD []⟩, d') := by
  have hcr : r.crypting = s.crypting := by simp [Stream.crypting, hk, he]
  have hv := View.init (sendAd_chunks ev c s ad hw)
  have hsecR : ∀ e, Item.secret e ∈ exprItems c s ad → MarkerState r := by
    intro e hmem
    have hs : MarkerState s := markerState_of_secret (ev := ev) (by
      rw [items_split ev c s ad hty]; exact List.mem_cons_of_mem _ (List.mem_append_left _ hmem))
    exact ⟨hk.trans hs.keyed, he.trans hs.clear⟩
  rw [items_split ev c s ad hty] at hv hw
  simp only [typeItems, List.forall_mem_cons, List.forall_mem_append] at hw
  obtain ⟨hcount, hexprs, hmt, htt, -⟩ := hw
  obtain ⟨d1, hok1, hv1⟩ := getInt_view hv hcount
  obtain ⟨d2, hok2, hv2⟩ := recvExprs_view hcr he _ d1 hsecR
    (fun it hit => ⟨hexprs it hit, exprItems_isExpr c s ad it hit⟩) hv1
  obtain ⟨d3, hok3, hv3⟩ := getString_view hcr he hv2 hmt
  obtain ⟨d4, hok4, _⟩ := getString_view hcr he hv3 htt
  exact ⟨d4, by simp only [recvAd, hcr, hok1, Int.toNat_natCast, hok2, exprItems_exprOf, hok3, hok4]⟩

end Cedar.Privacy
