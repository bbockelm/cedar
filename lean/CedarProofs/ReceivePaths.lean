/-
  Every receive loop of stream.Stream as a function of `Stream.accepted`, the list of frames
  `ReceiveFrameWithEnd` accepts along a wire: `ReceiveCompleteMessage`, the typed layer's
  `GetRemainingBytes` (EVERY non-zero end flag 1..10 ends a message), the incremental API and plain
  `ReceiveFrame`. Each delivers no more than the accepted frames denote, and `ReceiveCompleteMessage`
  all of it when the end flags are 0 / 1. For C01: the incremental API hands over exactly the message
  `ReceiveCompleteMessage` returns.
-/
import CedarProofs.Prefix

namespace Cedar

theorem messagesOf_prefix {a b : List SendOp} (h : a <+: b) : ∀ acc, messagesOf acc a <+: messagesOf acc b := by
  obtain ⟨t, rfl⟩ := h
  induction a with
  | nil => exact fun _ => List.nil_prefix
  | cons op a ih =>
    intro acc
    rw [List.cons_append, messagesOf, messagesOf]
    split
    · exact (List.prefix_cons_inj _).mpr (ih [])
    · exact ih _

theorem recvCompleteAux_accepted : ∀ {w : List WireFrame} {r : Stream} {acc : Bytes} {r' msg w'},
    r.recvCompleteAux acc w = .ok (r', msg, w') →
    messagesOf acc (r.accepted w) = msg :: messagesOf [] (r'.accepted w')
  | [], _, _, _, _, _, h => nomatch h
  | g :: w, r, acc, r', msg, w', h => by
    obtain ⟨r1, d, fl, hrecv, ⟨h1, hx⟩ | ⟨h0, hx⟩⟩ := recvCompleteAux_cons_ok.mp h
    · cases hx
      rw [accepted_cons hrecv, messagesOf, if_pos h1]
    · rw [accepted_cons hrecv, messagesOf, if_neg (h0 ▸ Nat.zero_ne_one)]
      exact recvCompleteAux_accepted hx

theorem deliverFuel_accepted : ∀ (n : Nat) (r : Stream) (w : List WireFrame),
    Stream.deliverFuel n r w <+: messagesOf [] (r.accepted w)
  | 0, _, _ => List.nil_prefix
  | n + 1, r, w => by
    unfold Stream.deliverFuel
    split
    · exact List.nil_prefix
    · rename_i r' msg w' hrc
      rw [recvCompleteAux_accepted hrc]
      exact (List.prefix_cons_inj _).mpr (deliverFuel_accepted n r' w')

theorem deliverFuel_prefix {r : Stream} {w : List WireFrame} {ops : List SendOp} (h : r.accepted w <+: ops)
    (n : Nat) : Stream.deliverFuel n r w <+: messagesOf [] ops :=
  (deliverFuel_accepted n r w).trans (messagesOf_prefix h [])

/-- `≤ 1`: the end flags the sending API produces; any other accepted flag is an error here -/
theorem recvCompleteAux_of_message : ∀ (w : List WireFrame) (r : Stream) (acc : Bytes) {msg rest},
    (∀ op ∈ r.accepted w, op.2 ≤ 1) → messagesOf acc (r.accepted w) = msg :: rest →
    ∃ r' w', r.recvCompleteAux acc w = .ok (r', msg, w') ∧ w'.length < w.length ∧
      rest = messagesOf [] (r'.accepted w') ∧ ∀ op ∈ r'.accepted w', op.2 ≤ 1
  | [], _, _, _, _, _, h => nomatch h
  | g :: w, r, acc, msg, rest, hfl, h => by
    cases hrecv : r.recvFrameWithEnd g with
    | error e => rw [Stream.accepted, hrecv] at h; cases h
    | ok x =>
      obtain ⟨r1, d, fl⟩ := x
      rw [accepted_cons hrecv] at hfl h
      have hfl1 : ∀ op ∈ r1.accepted w, op.2 ≤ 1 := fun op ho => hfl op (List.mem_cons_of_mem _ ho)
      rw [messagesOf] at h
      by_cases h1 : fl = 1
      · rw [if_pos h1] at h
        cases h
        exact ⟨r1, w, recvCompleteAux_cons_ok.mpr ⟨r1, d, fl, hrecv, .inl ⟨h1, rfl⟩⟩, Nat.lt_succ_self _, rfl, hfl1⟩
      · have h0 : fl = 0 := by have := hfl (d, fl) (List.mem_cons_self ..); omega
        rw [if_neg h1] at h
        obtain ⟨r', w', hok, hlt, hrest, hfl'⟩ := recvCompleteAux_of_message w r1 (acc ++ d) hfl1 h
        exact ⟨r', w', recvCompleteAux_cons_ok.mpr ⟨r1, d, fl, hrecv, .inr ⟨h0, hok⟩⟩, Nat.lt_succ_of_lt hlt, hrest,
          hfl'⟩

theorem deliverFuel_eq : ∀ (n : Nat) (r : Stream) (w : List WireFrame),
    (∀ op ∈ r.accepted w, op.2 ≤ 1) → w.length < n →
    Stream.deliverFuel n r w = messagesOf [] (r.accepted w)
  | 0, _, _, _, hn => absurd hn (Nat.not_lt_zero _)
  | n + 1, r, w, hfl, hn => by
    cases hm : messagesOf [] (r.accepted w) with
    | nil => exact List.prefix_nil.mp (hm ▸ deliverFuel_accepted (n + 1) r w)
    | cons msg rest =>
      obtain ⟨r', w', hok, hlt, rfl, hfl'⟩ := recvCompleteAux_of_message w r [] hfl hm
      rw [Stream.deliverFuel, Stream.recvComplete, hok]
      exact congrArg _ (deliverFuel_eq n r' w' hfl' (by omega))

theorem deliver_eq {r : Stream} {w : List WireFrame} {ops : List SendOp} (h : r.accepted w = ops)
    (hfl : ∀ op ∈ ops, op.2 ≤ 1) : r.deliver w = messagesOf [] ops :=
  h ▸ deliverFuel_eq _ r w (h ▸ hfl) (Nat.lt_succ_self _)

/-- reference semantics as the typed layer reads it: a message ends at the first frame whose end
    flag is non-zero -/
def messagesOfT (acc : Bytes) : List SendOp → List Bytes
  | [] => []
  | (d, fl) :: rest =>
    if fl ≠ 0 then (acc ++ d) :: messagesOfT [] rest else messagesOfT (acc ++ d) rest

theorem messagesOfT_eq_messagesOf : ∀ (ops : List SendOp) (acc : Bytes), (∀ op ∈ ops, op.2 ≤ 1) →
    messagesOfT acc ops = messagesOf acc ops
  | [], _, _ => rfl
  | (d, fl) :: rest, acc, h => by
    obtain ⟨(hfl : fl ≤ 1), hr⟩ := List.forall_mem_cons.mp h
    rw [messagesOfT, messagesOf]
    by_cases h1 : fl = 1
    · rw [if_pos (h1 ▸ Nat.one_ne_zero), if_pos h1, messagesOfT_eq_messagesOf rest [] hr]
    · have h0 : fl = 0 := by omega
      rw [if_neg (not_not_intro h0), if_neg h1, messagesOfT_eq_messagesOf rest _ hr]

/-- the application loop over the typed layer: `GetRemainingBytes` on a fresh inbound message until
    the first error; what it was handed -/
def Stream.deliverRestFuel : Nat → Stream → List WireFrame → List Bytes
  | 0, _, _ => []
  | n + 1, r, w =>
    match r.recvRestAux [] w with
    | .error _ => []
    | .ok (r', msg, w') => msg :: Stream.deliverRestFuel n r' w'

theorem messagesOfT_prefix {a b : List SendOp} (h : a <+: b) : ∀ acc, messagesOfT acc a <+: messagesOfT acc b := by
  obtain ⟨t, rfl⟩ := h
  induction a with
  | nil => exact fun _ => List.nil_prefix
  | cons op a ih =>
    intro acc
    rw [List.cons_append, messagesOfT, messagesOfT]
    split
    · exact (List.prefix_cons_inj _).mpr (ih [])
    · exact ih _

theorem recvRestAux_accepted : ∀ {w : List WireFrame} {r : Stream} {acc : Bytes} {r' msg w'},
    r.recvRestAux acc w = .ok (r', msg, w') →
    messagesOfT acc (r.accepted w) = msg :: messagesOfT [] (r'.accepted w')
  | [], _, _, _, _, _, h => nomatch h
  | g :: w, r, acc, r', msg, w', h => by
    obtain ⟨r1, d, fl, hrecv, ⟨h0, hx⟩ | ⟨h0, hx⟩⟩ := recvRestAux_cons_ok.mp h
    · cases hx
      rw [accepted_cons hrecv, messagesOfT, if_pos h0]
    · rw [accepted_cons hrecv, messagesOfT, if_neg (not_not_intro h0)]
      exact recvRestAux_accepted hx

theorem deliverRestFuel_accepted : ∀ (n : Nat) (r : Stream) (w : List WireFrame),
    Stream.deliverRestFuel n r w <+: messagesOfT [] (r.accepted w)
  | 0, _, _ => List.nil_prefix
  | n + 1, r, w => by
    unfold Stream.deliverRestFuel
    split
    · exact List.nil_prefix
    · rename_i r' msg w' hrc
      rw [recvRestAux_accepted hrc]
      exact (List.prefix_cons_inj _).mpr (deliverRestFuel_accepted n r' w')

theorem deliverRestFuel_prefix {r : Stream} {w : List WireFrame} {ops : List SendOp} (h : r.accepted w <+: ops)
    (n : Nat) : Stream.deliverRestFuel n r w <+: messagesOfT [] ops :=
  (deliverRestFuel_accepted n r w).trans (messagesOfT_prefix h [])

/-- the application's read loop: `ReadMessageBytes(n)` until it reports the end of the message
    (`io.EOF`); any other error aborts. -/
def Stream.readAll : Nat → Stream → Nat → Bytes → Except Err (Stream × Bytes)
  | 0, s, _, acc => .ok (s, acc)
  | fuel + 1, s, n, acc =>
    match s.readMessageBytes n with
    | .error .eom => .ok (s, acc)
    | .error e => .error e
    | .ok (s', d) => Stream.readAll fuel s' n (acc ++ d)

theorem readAll_reads_rest : ∀ (fuel : Nat) (s : Stream) (n : Nat) (acc : Bytes),
    0 < n → s.inMessage = true → s.bytesRead ≤ s.recvBuf.length → s.recvBuf.length - s.bytesRead < fuel →
    Stream.readAll fuel s n acc = .ok ({ s with bytesRead := s.recvBuf.length }, acc ++ s.recvBuf.drop s.bytesRead)
  | 0, _, _, _, _, _, _, hf => absurd hf (Nat.not_lt_zero _)
  | fuel + 1, s, n, acc, hn, hin, hle, hf => by
    unfold Stream.readAll Stream.readMessageBytes
    rw [if_neg (by rw [hin]; decide)]
    by_cases hz : s.recvBuf.length - s.bytesRead = 0
    · have he : s.bytesRead = s.recvBuf.length := by omega
      rw [if_pos hz, List.drop_eq_nil_of_le (Nat.le_of_eq he.symm), List.append_nil, ← he]
    · rw [if_neg hz]
      dsimp only
      rw [readAll_reads_rest fuel { s with bytesRead := s.bytesRead + min n (s.recvBuf.length - s.bytesRead) } n _
        hn hin (by dsimp only; omega) (by dsimp only; omega)]
      dsimp only
      rw [List.append_assoc, ← List.drop_drop, List.take_append_drop]

/-- One message through the incremental API, as an application that does not know the length in
    advance uses it: `StartMessageRead`, `ReadMessageBytes(n)` until end-of-message,
    `EndMessageRead`. The fuel covers every byte of the buffered message for any `n > 0`. -/
def Stream.recvIncremental (s : Stream) (n : Nat) (w : List WireFrame) : Except Err (Stream × Bytes × List WireFrame) :=
  match s.startMessageRead w with
  | .error e => .error e
  | .ok (s1, w1) =>
    match Stream.readAll (s1.recvBuf.length + 1) s1 n [] with
    | .error e => .error e
    | .ok (s2, msg) =>
      match s2.endMessageRead with
      | .error e => .error e
      | .ok s3 => .ok (s3, msg, w1)

/-- the application loop over the incremental API: messages handed over before the first error -/
def Stream.deliverIncFuel : Nat → Nat → Stream → List WireFrame → List Bytes
  | 0, _, _, _ => []
  | fuel + 1, n, r, w =>
    match r.recvIncremental n w with
    | .error _ => []
    | .ok (r', msg, w') => msg :: Stream.deliverIncFuel fuel n r' w'

theorem accepted_withRd : ∀ (w : List WireFrame) (s : Stream) (b : Bytes) (n t : Nat) (i : Bool),
    (s.withRd b n t i).accepted w = s.accepted w
  | [], _, _, _, _, _ => rfl
  | g :: w, s, b, n, t, i => by
    rw [Stream.accepted, Stream.accepted, recvFrameWithEnd_withRd]
    cases s.recvFrameWithEnd g with
    | error e => rfl
    | ok x => exact congrArg _ (accepted_withRd w x.1 b n t i)

/-- the second conjunct is what `endMessageRead_of_consumed` asks for -/
theorem readNextFrame_accepted : ∀ {w : List WireFrame} {r r' : Stream} {w'},
    r.readNextFrame w = .ok (r', w') →
    messagesOfT r.recvBuf (r.accepted w) = r'.recvBuf :: messagesOfT [] (r'.accepted w') ∧
      r'.totalMsg = r'.recvBuf.length
  | [], _, _, _, h => nomatch h
  | g :: w, r, r', w', h => by
    obtain ⟨s1, d, fl, hrecv, hx⟩ := readNextFrame_cons_ok.mp h
    rw [accepted_cons hrecv, messagesOfT, ← recvFrameWithEnd_recvBuf hrecv]
    rcases hx with ⟨h0, hx⟩ | ⟨h0, hx⟩
    · cases hx
      rw [if_pos h0, accepted_withRd]
      exact ⟨rfl, rfl⟩
    · rw [if_neg (not_not_intro h0)]
      have ih := readNextFrame_accepted hx
      rwa [accepted_withRd] at ih

theorem recvIncremental_accepted {r r' : Stream} {n : Nat} {w w' : List WireFrame} {msg : Bytes} (hn : 0 < n)
    (h : r.recvIncremental n w = .ok (r', msg, w')) :
    messagesOfT r.recvBuf (r.accepted w) = msg :: messagesOfT r'.recvBuf (r'.accepted w') := by
  unfold Stream.recvIncremental at h
  cases hsm : r.startMessageRead w with
  | error e => rw [hsm] at h; cases h
  | ok x =>
    obtain ⟨s1, w1⟩ := x
    obtain ⟨_, s0, hrn, rfl⟩ := startMessageRead_ok.mp hsm
    obtain ⟨hmsg, htot⟩ := readNextFrame_accepted hrn
    rw [hsm] at h
    dsimp only at h
    rw [readAll_reads_rest (s0.recvBuf.length + 1) { s0 with inMessage := true, bytesRead := 0 } n [] hn rfl
      (Nat.zero_le _) (Nat.lt_succ_self _)] at h
    dsimp only at h
    -- everything was read: `bytesRead = recvBuf.length = totalMsg`
    rw [endMessageRead_of_consumed rfl (Nat.le_of_eq htot)] at h
    cases h
    rw [hmsg, List.nil_append, List.drop_zero]
    exact congrArg _ (congrArg _ (accepted_withRd _ s0 [] 0 0 false).symm)

theorem deliverIncFuel_accepted {n : Nat} (hn : 0 < n) : ∀ (fuel : Nat) (r : Stream) (w : List WireFrame),
    Stream.deliverIncFuel fuel n r w <+: messagesOfT r.recvBuf (r.accepted w)
  | 0, _, _ => List.nil_prefix
  | fuel + 1, r, w => by
    unfold Stream.deliverIncFuel
    split
    · exact List.nil_prefix
    · rename_i r' msg w' hrc
      rw [recvIncremental_accepted hn hrc]
      exact (List.prefix_cons_inj _).mpr (deliverIncFuel_accepted hn fuel r' w')

theorem deliverIncFuel_prefix {r : Stream} {w : List WireFrame} {ops : List SendOp} {n : Nat} (hn : 0 < n)
    (hfl : ∀ op ∈ ops, op.2 ≤ 1) (hbuf : r.recvBuf = []) (h : r.accepted w <+: ops) (fuel : Nat) :
    Stream.deliverIncFuel fuel n r w <+: messagesOf [] ops := by
  rw [← messagesOfT_eq_messagesOf ops [] hfl]
  have := hbuf ▸ deliverIncFuel_accepted hn fuel r w
  exact this.trans (messagesOfT_prefix h [])

/-- the application loop over plain `ReceiveFrame` (what `GetFile` does): payloads handed over
    before the first error -/
def Stream.deliverFrames : Stream → List WireFrame → List Bytes
  | _, [] => []
  | r, g :: w =>
    match r.recvFrame g with
    | .error _ => []
    | .ok (r', d) => d :: Stream.deliverFrames r' w

theorem deliverFrames_accepted {k : Nat} : ∀ (r : Stream) (w : List WireFrame), r.key = some k → r.encrypted = true →
    Stream.deliverFrames r w = (r.accepted w).map Prod.fst
  | _, [], _, _ => rfl
  | r, g :: w, hk, he => by
    unfold Stream.deliverFrames Stream.accepted
    cases h' : r.recvFrameWithEnd g with
    | error e' =>
      cases h : r.recvFrame g with
      | error e => rfl
      | ok x =>
        rw [(recvFrame_keyed_iff_withEnd hk he).mp h] at h'
        cases h'
    | ok x =>
      obtain ⟨r', d, fl⟩ := x
      obtain ⟨_, _, rfl, _⟩ := (recvFrameWithEnd_keyed_ok hk he).mp h'
      obtain ⟨hk', _, _, he', _⟩ := recvFrameWithEnd_keeps_send_half h'
      rw [(recvFrame_keyed_iff_withEnd hk he).mpr h']
      exact congrArg _ (deliverFrames_accepted r' w (hk'.trans hk) (he'.trans he))

theorem deliverFrames_prefix {r : Stream} {k : Nat} {w : List WireFrame} {ops : List SendOp}
    (hk : r.key = some k) (he : r.encrypted = true) (h : r.accepted w <+: ops) :
    Stream.deliverFrames r w <+: ops.map Prod.fst := by
  rw [deliverFrames_accepted r w hk he]
  exact h.map _

theorem readNextFrame_eq_complete {n t : Nat} {i : Bool} :
    ∀ (w : List WireFrame) (s : Stream) (acc : Bytes) {s1 msg w'}, s.recvCompleteAux acc w = .ok (s1, msg, w') →
    (s.withRd acc n t i).readNextFrame w = .ok (s1.withRd msg n msg.length i, w')
  | [], _, _, _, _, _, h => nomatch h
  | f :: w, s, acc, s1, msg, w', h => by
    obtain ⟨s2, d, fl, hr, hx⟩ := recvCompleteAux_cons_ok.mp h
    refine readNextFrame_cons_ok.mpr ⟨s2.withRd acc n t i, d, fl, by rw [recvFrameWithEnd_withRd, hr], ?_⟩
    rcases hx with ⟨h1, hx⟩ | ⟨h0, hx⟩
    · cases hx
      exact .inl ⟨h1 ▸ Nat.one_ne_zero, rfl⟩
    · exact .inr ⟨h0, readNextFrame_eq_complete w s2 (acc ++ d) hx⟩

end Cedar
