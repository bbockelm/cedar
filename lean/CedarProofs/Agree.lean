/-
  A receiver that interprets what it reads against one that only steps over it, as one relation on
  `Except Err` computations, with the rules that carry it through a definition step by step.
-/
import CedarModel.Basic

namespace Cedar

/-- The reader `x` may reject the content ("malformed") where the skipper `y`, which does not look at
    it, goes on; in every other case the skipper's outcome is the reader's, the value projected away. -/
def Agree {ρ τ : Type} (π : ρ → τ) (x : Except Err ρ) (y : Except Err τ) : Prop :=
  x = .error .malformed ∨ y = x.map π

namespace Agree
variable {ρ τ ρ' τ' : Type} {π : ρ → τ} {π' : ρ' → τ'} {x : Except Err ρ} {y : Except Err τ}

theorem malformed (h : x = .error .malformed) : Agree π x y := .inl h

theorem of_eq (h : y = x.map π) : Agree π x y := .inr h

theorem pure (v : ρ) : Agree π (.ok v) (.ok (π v)) := .inr rfl

theorem refl (x : Except Err ρ) : Agree id x x := .of_eq (by cases x <;> rfl)

theorem bind {f : ρ → Except Err ρ'} {g : τ → Except Err τ'}
    (h : Agree π x y) (hf : ∀ v, Agree π' (f v) (g (π v))) : Agree π' (x >>= f) (y >>= g) := by
  rcases h with rfl | rfl
  · exact .inl rfl
  · cases x with
    | error e => exact .inr rfl
    | ok v => exact hf v

theorem bind_same {α : Type} {c : Except Err α} {f : α → Except Err ρ} {g : α → Except Err τ}
    (hf : ∀ a, Agree π (f a) (g a)) : Agree π (c >>= f) (c >>= g) :=
  (Agree.refl c).bind hf

/-- the reader has a step `f` left (a check, building its result) where the skipper is done -/
theorem bind_left {f : ρ → Except Err ρ'} {π' : ρ' → τ} (h : Agree π x y) (hf : ∀ v, Agree π' (f v) (.ok (π v))) :
    Agree π' (x >>= f) y := by
  have := h.bind (g := .ok) hf
  cases y <;> exact this

theorem map {φ : ρ → ρ'} {ψ : τ → τ'} (h : Agree π x y) (hc : ∀ v, π' (φ v) = ψ (π v)) :
    Agree π' (x.map φ) (y.map ψ) := by
  have := h.bind (f := fun v => .ok (φ v)) (g := fun w => .ok (ψ w)) fun v => .inr (congrArg Except.ok (hc v).symm)
  cases x <;> cases y <;> exact this

theorem trans {σ : Type} {κ : τ → σ} {z : Except Err σ} (h : Agree π x y) (h' : Agree κ y z) :
    Agree (κ ∘ π) x z := by
  rcases h with rfl | rfl
  · exact .inl rfl
  · rcases h' with h' | rfl
    · cases x with
      | error e => cases h'; exact .inl rfl
      | ok v => cases h'
    · exact .inr (by cases x <;> rfl)

theorem of_check {α : Type} {c : Except Err α} {f : α → Except Err ρ} (hc : ∀ e, c = .error e → e = .malformed)
    (hf : ∀ a, Agree π (f a) y) : Agree π (c >>= f) y := by
  cases c with
  | error e => cases hc e rfl; exact .inl rfl
  | ok a => exact hf a

theorem ok {v : ρ} (h : Agree π x y) (hx : x = .ok v) : y = .ok (π v) := by
  subst hx
  exact h.resolve_left nofun

theorem error {e : Err} (h : Agree π x y) (hx : x = .error e) (he : e ≠ .malformed) : y = .error e := by
  subst hx
  exact h.resolve_left fun h' => he (Except.error.inj h')

theorem error_inv {e : Err} (h : Agree π x y) (hy : y = .error e) : x = .error e ∨ x = .error .malformed := by
  rcases h with h | rfl
  · exact .inr h
  · cases x with
    | error e' => cases hy; exact .inl rfl
    | ok v => cases hy

end Agree
end Cedar
