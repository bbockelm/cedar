/-
  What C11 is stated with (definitions only; a change to one of them changes what the theorems of C11
  say): the three messages as the specification reads them, what makes a token valid, the Dolev–Yao
  vocabulary, the subject rule before and after F-C11-identity-from-claim.
-/
import CedarModel.Token

namespace Cedar.Token
open Cedar

-- global; for the `decide`d `example`s of C11
deriving instance DecidableEq for Except

/-- message 1, fields in reading order -/
structure W1 where
  status : Int
  id : Bytes
  token : Bytes
  raLen : Int
  ra : Bytes
  deriving DecidableEq, Repr

/-- message 2: status, id echo, server id, RA echo, RB, proof -/
structure W2 where
  status : Int
  id : Bytes
  sid : Bytes
  raLen : Int
  ra : Bytes
  rbLen : Int
  rb : Bytes
  macLen : Int
  mac : Bytes
  deriving DecidableEq, Repr

/-- message 3: status, id, RB echo, proof -/
structure W3 where
  status : Int
  id : Bytes
  rbLen : Int
  rb : Bytes
  macLen : Int
  mac : Bytes
  deriving DecidableEq, Repr

def Rd.m1 : Rd W1 := do
  Rd.newMessage
  let st ← Rd.int
  let id ← Rd.idString
  let tok ← Rd.token
  let n ← Rd.int
  let ra ← Rd.bytes n
  Rd.checkEOM
  pure ⟨st, id, tok, n, ra⟩

/-- no `checkEOM`: the client does not look at what follows the proof -/
def Rd.m2 : Rd W2 := do
  Rd.newMessage
  let st ← Rd.int
  let id ← Rd.idString
  let sid ← Rd.idString
  let n ← Rd.int
  let ra ← Rd.bytes n
  let m ← Rd.int
  let rb ← Rd.bytes m
  let k ← Rd.int
  let mac ← Rd.bytes k
  pure ⟨st, id, sid, n, ra, m, rb, k, mac⟩

def Rd.m3 : Rd W3 := do
  Rd.newMessage
  let st ← Rd.int
  let id ← Rd.idString
  let n ← Rd.int
  let rb ← Rd.bytes n
  let k ← Rd.int
  let mac ← Rd.bytes k
  Rd.checkEOM
  pure ⟨st, id, n, rb, k, mac⟩

/-- what `validateTokenTiming` accepts at clock `now` (`checkTiming_ok_iff`); `maxAge ≤ 0`: no age limit -/
def TimeValid (now maxAge : Int) (c : Claims) : Prop :=
  (match c.exp with | .bad => False | .num e => now < e | .absent => True) ∧
  (match c.iat with | .bad => False | .num i => ¬ (maxAge > 0 ∧ i < now - maxAge) | .absent => True) ∧
  (match c.nbf with | .bad => False | .num n => n ≤ now | .absent => True)

/-- what `validateTokenAndDeriveKeys` checks before it looks at the subject (`checkTokenPre_ok_iff`) -/
def ValidToken (P : SrvCfg) (env : Env) (now : Int) (tok key : Bytes) (c : Claims) : Prop :=
  ∃ h p kidv, splitDots tok = [h, p] ∧ env.hdr h = .ok kidv ∧ kidv ≠ .nonStr ∧
    loadSigningKey P.ks (keyIdOf kidv) = some key ∧ env.claims p = .ok c ∧
    TimeValid now (maxAgeOf P.cfgMaxAge P.envMaxAge) c

/-- the client could load its token: `tok` = header.payload, `sig` its signature, `sub` its subject -/
def ClientToken (env : Env) (tokenStr : Bytes) (usable : Bool) (tok : Bytes) (sig : Sig) (sub : Bytes) : Prop :=
  usable = true ∧ ∃ h p sg c, splitDots tokenStr = [h, p, sg] ∧ tok = h ++ [dot] ++ p ∧ env.sigOf sg = .ok sig ∧
    env.claims p = .ok c ∧ c.sub = .str sub ∧ sub ≠ []

/-- a closure one could put for the parameter `knows` of `possession_server` / `possession_client`; no theorem or example does -/
inductive KnowsSig (given : Sig → Prop) (knowsKey : Bytes → Prop) : Sig → Prop
  | given {s : Sig} : given s → KnowsSig given knowsKey s
  | sign {k : Bytes} (t : Bytes) : knowsKey k → KnowsSig given knowsKey (.sign k t)
  | raw (b : Bytes) : KnowsSig given knowsKey (.raw b)

/-- What the bytes a party sends as a proof can read as. That no further constructor yields a
    `Mac.hmac` term is the trusted part (HMAC unforgeability, HKDF one-wayness). `knows` and `seen`
    are parameters; nothing here says how a party comes to know a signature or who made a proof it
    has seen. -/
inductive CanSend (knows : Sig → Prop) (seen : Mac → Prop) : Mac → Prop
  | replay {m : Mac} : seen m → CanSend knows seen m
  | raw (b : Bytes) : CanSend knows seen (.raw b)
  | nilKey (msg : Bytes) : CanSend knows seen (.hmac .nil msg)
  | compute {s : Sig} (tok msg : Bytes) : knows s → CanSend knows seen (.hmac (.derive s tok) msg)

/-! F-C11-identity-from-claim: how `validateTokenAndDeriveKeys` chose the subject before and after,
    as two functions of their own. `validate` models the code after the fix and uses neither. -/

/-- before: `claimed` is the id announced in message 1 -/
def subjectBeforeFix (claimed : Bytes) : SubV → Except Rej Bytes
  | .nonStr => .error .subType
  | .str x => if x.isEmpty then .error .noSub else .ok x
  | .absent => if claimed.isEmpty then .error .noSub else .ok claimed

def subjectAfterFix (_claimed : Bytes) : SubV → Except Rej Bytes
  | .nonStr => .error .subType
  | .str x => if x.isEmpty then .error .noSub else .ok x
  | .absent => .error .noSub

end Cedar.Token
