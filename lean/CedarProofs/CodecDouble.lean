/-
  C14 helper lemmas: the double as an integer pair (CedarModel/Codec.lean, `encodeDbl`). Everything
  is stated on magnitudes (`n = |m|`, `q = |fracInt|`) so that no proof needs linear arithmetic
  over 84-bit integer literals; the sign is handled separately.
-/
import CedarModel.Codec

namespace Cedar

/-- on magnitudes: `q = |fracInt|` is within 1 of the exact quotient `n · FracConst / 2^53`
    (`n = |m|`), i.e. `|q · 2^53 − n · FracConst| ≤ 2^53`. This is what a Go run produces: the float
    product may be rounded before `int32()` truncates it (trusted), the codec engine measures this
    inequality with exact integers on every double it sends. -/
def NearN (n q : Nat) : Prop :=
  q * twoPow53 ≤ n * fracConst + twoPow53 ∧ n * fracConst ≤ q * twoPow53 + twoPow53

theorem fracOfNat_near (n : Nat) : NearN n (fracOfNat n) := by
  unfold NearN fracOfNat
  have hpos : 0 < twoPow53 := by decide
  have h1 : n * fracConst / twoPow53 * twoPow53 ≤ n * fracConst := Nat.div_mul_le_self _ _
  have h2 : n * fracConst < n * fracConst / twoPow53 * twoPow53 + twoPow53 := Nat.lt_div_mul_add hpos
  generalize n * fracConst / twoPow53 * twoPow53 = a at h1 h2
  generalize n * fracConst = b at h1 h2
  generalize twoPow53 = p at h2
  omega

theorem fracOfNat_lt (n : Nat) (hn : n < twoPow53) : fracOfNat n < fracConst := by
  unfold fracOfNat
  have hpos : 0 < twoPow53 := by decide
  rw [Nat.div_lt_iff_lt_mul hpos]
  rw [Nat.mul_comm]
  exact Nat.mul_lt_mul_of_pos_left hn (by decide)

theorem encodeDbl_fst (m e : Int) :
    (encodeDbl m e).1 = (if m < 0 then -((fracOfNat m.natAbs : Nat) : Int) else ((fracOfNat m.natAbs : Nat) : Int)) := rfl

theorem encodeDbl_abs (m e : Int) : (encodeDbl m e).1.natAbs = fracOfNat m.natAbs := by
  rw [encodeDbl_fst]
  split
  · rw [Int.natAbs_neg, Int.natAbs_natCast]
  · rw [Int.natAbs_natCast]

theorem encodeDbl_sign (m e : Int) : (encodeDbl m e).1 < 0 → m < 0 := by
  rw [encodeDbl_fst]
  split
  · exact fun _ => ‹m < 0›
  · exact fun h => absurd h (Int.not_lt.mpr (Int.natCast_nonneg _))

/-- the reconstructed fraction `q / FracConst` is within relative error `2^-29` of `n / 2^53`
    (`536870912` = 2^29; `twoPow53 / 2` = 2^52 ≤ `n`: a finite non-zero double has a 53-bit mantissa) -/
theorem precisionN (n q : Nat) (hn : twoPow53 / 2 ≤ n) (h : NearN n q) :
    (q * twoPow53 - n * fracConst) * 536870912 ≤ fracConst * n ∧
    (n * fracConst - q * twoPow53) * 536870912 ≤ fracConst * n := by
  -- the error is at most 2^53, and 2^53 · 2^29 ≤ (2^31 − 1) · 2^52 ≤ FracConst · n
  have hk : twoPow53 * 536870912 ≤ fracConst * (twoPow53 / 2) := by decide
  have hcn : fracConst * (twoPow53 / 2) ≤ fracConst * n := Nat.mul_le_mul_left _ hn
  obtain ⟨h1, h2⟩ := h
  have d1 : q * twoPow53 - n * fracConst ≤ twoPow53 := Nat.sub_le_iff_le_add'.mpr h1
  have d2 : n * fracConst - q * twoPow53 ≤ twoPow53 := Nat.sub_le_iff_le_add'.mpr h2
  exact ⟨Nat.le_trans (Nat.mul_le_mul_right _ d1) (Nat.le_trans hk hcn),
         Nat.le_trans (Nat.mul_le_mul_right _ d2) (Nat.le_trans hk hcn)⟩

end Cedar
