/-
  C09, the sending decision (CedarModel/Privacy.lean): the two filters as one decision per attribute,
  and the two ways in which the item list does not depend on what is private: without the opt-in it
  is the item list of the ad's public part; with it, on the marker path, its cleartext view is that
  of the ad with the secret values blanked.
  The C09 theorems are stated with `publicPart`, `MarkerState`, `SameButPrivateValues`, `Item.clearVal`,
  `secretVals`, `Item.wf`: a change to one of these changes what they say.
-/
import CedarModel.Privacy
import CedarProofs.Util
import CedarProofs.CodecStr
import CedarProofs.StreamOps

namespace Cedar.Privacy
open Cedar

theorem lower_length (n : Bytes) : (lower n).length = n.length := by simp [lower]

theorem lower_take (n : Bytes) (k : Nat) : lower (n.take k) = (lower n).take k := by
  simp [lower, List.map_take]

theorem lower_append (a b : Bytes) : lower (a ++ b) = lower a ++ lower b := by simp [lower]

theorem isPrivV1_fold (n m : Bytes) (h : lower n = lower m) : isPrivV1 n = isPrivV1 m := by
  simp [isPrivV1, h]

theorem isPrivV2_fold (n m : Bytes) (h : lower n = lower m) : isPrivV2 n = isPrivV2 m := by
  have hl : n.length = m.length := by rw [← lower_length n, ← lower_length m, h]
  simp [isPrivV2, lower_take, h, lenGe_eq_decide, hl]

theorem isPriv_fold (n m : Bytes) (h : lower n = lower m) : isPriv n = isPriv m := by
  simp [isPriv, isPrivV1_fold n m h, isPrivV2_fold n m h]

theorem inList_iff (n : Bytes) (l : List Bytes) : inList n l = true ↔ n ∈ l := by
  simp [inList]

/-- both filter paths of `attrsToSend` as one predicate on the attribute (`attrsToSend_eq_filter`) -/
def keep (c : Config) (a : Attr) : Bool :=
  (c.whitelist.length = 0 || inList a.name c.whitelist)
    && !withheld (excludePrivate c) (excludePrivateV2 c) c.encryptedAttrs a.name

theorem adHas_mem (ad : Ad) (a : Attr) (h : a ∈ ad) : adHas ad a.name = true :=
  List.any_eq_true.mpr ⟨a, h, beq_self_eq_true _⟩

theorem attrsToSend_eq_filter (c : Config) (ad : Ad) : attrsToSend c ad = ad.filter (keep c) := by
  unfold attrsToSend
  by_cases hw : c.whitelist.length > 0
  · rw [if_pos hw]
    unfold filterByWhitelist
    apply List.filter_congr
    intro a ha
    simp [keep, adHas_mem ad a ha, Nat.ne_of_gt hw]
  · rw [if_neg hw]
    unfold filterByPrivacy
    apply List.filter_congr
    intro a _
    simp [keep, Nat.eq_zero_of_not_pos hw]

/-- The code always calls the test with `excludePrivateV2 = excludePrivate || peerTooOld`. Then the
    guard `exP || exV2` is implied by either disjunct, and of `exV2 && privateV2` only the
    `peerTooOld` half is left: the `exP` half is part of the first disjunct. -/
theorem withheld_eq (exP old : Bool) (enc : List Bytes) (n : Bytes) :
    withheld exP (exP || old) enc n =
      ((exP && (isPriv n || inList n enc)) || (old && isPrivV2 n)) := by
  unfold withheld isPriv
  cases exP
  · cases old <;> simp
  · cases isPrivV2 n <;> simp

theorem keep_iff (c : Config) (a : Attr) :
    keep c a = true ↔ (c.whitelist = [] ∨ a.name ∈ c.whitelist) ∧
      ((isPriv a.name = true ∨ a.name ∈ c.encryptedAttrs) → includePrivate c = true) ∧
      (isPrivV2 a.name = true → peerTooOld c = false) := by
  unfold keep
  rw [show excludePrivateV2 c = (excludePrivate c || peerTooOld c) from rfl, withheld_eq, excludePrivate]
  cases includePrivate c <;> cases peerTooOld c <;> simp [← inList_iff]

theorem includePrivate_iff (c : Config) :
    includePrivate c = true ↔ (c.options &&& optIncludePrivate ≠ 0 ∧ c.options &&& optNoPrivate = 0) := by
  simp [includePrivate, hasOpt]

theorem Version.builtSince_eq_false (v : Version) (M m p : Int) :
    v.builtSince M m p = false ↔
      (v.major < M ∨ (v.major = M ∧ v.minor < m) ∨ (v.major = M ∧ v.minor = m ∧ v.patch < p)) := by
  simp only [Version.builtSince, Bool.if_true_left, Bool.if_false_right, Bool.or_eq_false_iff,
    Bool.and_eq_false_iff, decide_eq_false_iff_not, Bool.and_true, Bool.decide_and]
  omega

/-- the `any` guard of `adWithoutPrivate` changes nothing -/
theorem typeView_eq_filter (ad : Ad) (enc : List Bytes) :
    typeView ad enc = ad.filter (fun a => !isSecretName enc a.name) := by
  unfold typeView
  split
  · rfl
  · rename_i h
    have hn := List.any_eq_false.mp (Bool.eq_false_iff.mpr h)
    exact (List.filter_eq_self.mpr fun a ha => by simp [hn a ha]).symm

/-! Without the opt-in the item list sees the ad through two filters only, `attrsToSend` and
  `typeView`; each keeps public attributes only, so each sees the ad through its public part. -/

def publicPart (ad : Ad) : Ad := ad.filter (fun a => !isPriv a.name)

theorem keep_public_of_excluded (c : Config) (h : includePrivate c = false) (a : Attr)
    (hk : keep c a = true) : isPriv a.name = false :=
  Bool.eq_false_iff.mpr fun hp => Bool.false_ne_true (h.symm.trans (((keep_iff c a).mp hk).2.1 (.inl hp)))

theorem attrsToSend_publicPart (c : Config) (h : includePrivate c = false) (ad : Ad) :
    attrsToSend c (publicPart ad) = attrsToSend c ad := by
  rw [attrsToSend_eq_filter, attrsToSend_eq_filter]
  exact filter_of_filter (fun a hk => by simp [keep_public_of_excluded c h a hk]) ad

theorem typeView_publicPart (ad : Ad) (enc : List Bytes) :
    typeView (publicPart ad) enc = typeView ad enc := by
  rw [typeView_eq_filter, typeView_eq_filter]
  exact filter_of_filter (fun a h => by simp_all [isSecretName]) ad

theorem items_publicPart (ev : Eval) (c : Config) (s : Stream) (h : includePrivate c = false) (ad : Ad) :
    items ev c s (publicPart ad) = items ev c s ad := by
  unfold items itemsWith
  rw [attrsToSend_publicPart c h ad, typeView_publicPart ad c.encryptedAttrs]

/-- what stands in the cleartext for an item -/
def Item.clearVal : Item → Val
  | .val v => v
  | .secret _ => .str marker

/-- the values that travel as put_secret fields -/
def secretVals : List Item → List Val
  | [] => []
  | .val _ :: r => secretVals r
  | .secret e :: r => .str e :: secretVals r

def Item.wf : Item → Prop
  | .val v => v.wf
  | .secret e => (Val.str e).wf

theorem marker_wf : (Val.str marker).wf := by
  refine ⟨by decide, by decide, by decide⟩

/-- session key present, stream not encrypting: the state in which secrets take the marker path
    (`CryptoForSecretIsNoop` false) -/
structure MarkerState (s : Stream) : Prop where
  keyed : s.key.isSome = true
  clear : s.encrypted = false

theorem markerState_iff (s : Stream) : MarkerState s ↔ secretIsNoop s = false := by
  simp only [secretIsNoop, Bool.or_eq_false_iff, Option.isNone_eq_false_iff]
  exact ⟨fun h => ⟨h.keyed, h.clear⟩, fun h => ⟨h.1, h.2⟩⟩

theorem MarkerState.crypting {s : Stream} (h : MarkerState s) : s.crypting = false := by
  simp [Stream.crypting, h.clear]

theorem MarkerState.prepare {s : Stream} (h : MarkerState s) :
    s.prepareSecret.encrypted = true ∧ s.prepareSecret.crypting = true ∧
    MarkerState s.prepareSecret.restoreSecret := by
  rw [prepareSecret_eq]
  refine ⟨?_, ?_, h.keyed, h.clear⟩ <;> simp [Stream.crypting, h.keyed]

theorem attrItem_marker {s : Stream} (hs : MarkerState s) (enc : List Bytes) (a : Attr) :
    attrItem (!secretIsNoop s) enc a =
      if isSecretName enc a.name then .secret (exprStr a) else .val (.str (exprStr a)) := by
  simp only [attrItem, (markerState_iff s).mp hs, Bool.not_false, Bool.true_and]

theorem attrItem_noop (enc : List Bytes) (a : Attr) : attrItem false enc a = .val (.str (exprStr a)) := rfl

theorem markerState_of_secret {ev : Eval} {c : Config} {s : Stream} {ad : Ad} {e : Bytes}
    (h : Item.secret e ∈ items ev c s ad) : MarkerState s := by
  rw [markerState_iff]
  cases hn : secretIsNoop s with
  | false => rfl
  | true =>
    -- every attribute is then an ordinary item (`attrItem_noop`), and no other item is ever a secret
    simp [items, itemsWith, typeItems, attrItem_noop, hn] at h

/-! With the opt-in, on the marker path, the cleartext view does not depend on secret values: both
  filters look at names only, so they commute with blanking the values of the attributes that
  travel as secrets; what is left of such an attribute in the cleartext view is the marker. -/

/-- core has no `List.Forall₂` -/
inductive Forall2 {α : Type} (R : α → α → Prop) : List α → List α → Prop
  | nil : Forall2 R [] []
  | cons {a b : α} {l1 l2 : List α} : R a b → Forall2 R l1 l2 → Forall2 R (a :: l1) (b :: l2)

def SameButPrivateValues (ad1 ad2 : Ad) : Prop :=
  Forall2 (fun a b => a.name = b.name ∧ (isPriv a.name = false → a.value = b.value)) ad1 ad2

def maskSecret (enc : List Bytes) (a : Attr) : Attr := if isSecretName enc a.name then ⟨a.name, []⟩ else a

@[simp] theorem maskSecret_name (enc : List Bytes) (a : Attr) : (maskSecret enc a).name = a.name := by
  unfold maskSecret; split <;> rfl

theorem maskSecret_of_public {enc : List Bytes} {a : Attr} (h : isSecretName enc a.name = false) :
    maskSecret enc a = a := by simp [maskSecret, h]

theorem attrsToSend_map (c : Config) (f : Attr → Attr) (hf : ∀ a, (f a).name = a.name) (ad : Ad) :
    attrsToSend c (ad.map f) = (attrsToSend c ad).map f := by
  simp only [attrsToSend_eq_filter, List.filter_map]
  congr 2
  funext a
  simp [keep, hf]

theorem typeView_maskSecret (ad : Ad) (enc : List Bytes) :
    typeView (ad.map (maskSecret enc)) enc = typeView ad enc := by
  simp only [typeView_eq_filter, List.filter_map]
  rw [show ((fun a : Attr => !isSecretName enc a.name) ∘ maskSecret enc) = fun a => !isSecretName enc a.name
    from funext fun a => by simp]
  exact (List.map_congr_left fun a ha =>
    maskSecret_of_public (by simpa using (List.mem_filter.mp ha).2)).trans (List.map_id _)

theorem clearVals_maskSecret (ev : Eval) (c : Config) (s : Stream) (ad : Ad) (hs : MarkerState s) :
    (items ev c s (ad.map (maskSecret c.encryptedAttrs))).map Item.clearVal = (items ev c s ad).map Item.clearVal := by
  have hattr : ∀ a,
      (Item.clearVal ∘ attrItem (!secretIsNoop s) c.encryptedAttrs ∘ maskSecret c.encryptedAttrs) a =
      (Item.clearVal ∘ attrItem (!secretIsNoop s) c.encryptedAttrs) a := by
    intro a
    simp only [Function.comp, attrItem_marker hs, maskSecret_name]
    split
    · rfl
    · rename_i h; rw [maskSecret_of_public (by simpa using h)]
  simp only [items, itemsWith, attrsToSend_map c _ (maskSecret_name _), typeView_maskSecret,
    List.map_append, List.map_map, List.length_map, funext hattr]

theorem maskSecret_congr (enc : List Bytes) {a b : Attr}
    (h : a.name = b.name ∧ (isPriv a.name = false → a.value = b.value)) : maskSecret enc a = maskSecret enc b := by
  unfold maskSecret
  rw [← h.1]
  split
  · rfl
  · next hs =>
    -- not sent as a secret, so not private: the values agree as well
    have hv := h.2 (Bool.eq_false_iff.mpr fun hp => hs (by simp [isSecretName, hp]))
    cases a
    cases b
    exact congr (congrArg Attr.mk h.1) hv

theorem same_maskSecret (enc : List Bytes) {ad1 ad2 : Ad} (h : SameButPrivateValues ad1 ad2) :
    ad1.map (maskSecret enc) = ad2.map (maskSecret enc) := by
  induction h with
  | nil => rfl
  | cons hab _ ih => rw [List.map_cons, List.map_cons, ih, maskSecret_congr enc hab]

theorem clearVals_same (ev : Eval) (c : Config) (s : Stream) (ad1 ad2 : Ad) (hs : MarkerState s)
    (h : SameButPrivateValues ad1 ad2) :
    (items ev c s ad1).map Item.clearVal = (items ev c s ad2).map Item.clearVal := by
  rw [← clearVals_maskSecret ev c s ad1 hs, ← clearVals_maskSecret ev c s ad2 hs, same_maskSecret _ h]

end Cedar.Privacy
