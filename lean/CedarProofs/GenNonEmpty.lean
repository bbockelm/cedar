/-
  `C19.all_io_wrapped`, `ctx_threaded` and `no_contextless_blocking` say "every row of the regenerated
  table is one of the declared rows", which holds vacuously over an EMPTY table — and the tables
  (CedarGen.FactsIO, CedarGen.FactsNoCtx) are extracted by syntactic patterns (field names conn /
  reader / writer, parameter type context.Context, identifiers ending in ctx), so a rename in the
  library empties them. The theorems below fail in that case (and tools/gen refuses to generate:
  facts_io.go `checkIOFacts`, facts_noctx.go). The tables of exceptions (ctxFresh, ctxForeign,
  ctxStored, blocking) may legitimately be empty; for those the obligation is on what the scan
  EXAMINED (generated counters), not on what it found. `C19.fact_tables_not_vacuous` restates
  `connIO_nonempty`, `connUses_nonempty`, the two `∃` about `connIO` and the floors on `funcsScanned` and
  `callsScanned`; everything else here is checked by the build of this file only.
-/
import CedarGen.FactsIO
import CedarGen.FactsNoCtx

namespace Cedar.GenNonEmpty

open CedarGen

theorem connIO_nonempty : FactsIO.connIO ≠ [] := by decide +kernel

theorem connIO_has_read_and_write :
    (∃ x ∈ FactsIO.connIO, x.2.1 = "readWithContext") ∧
    (∃ x ∈ FactsIO.connIO, x.2.1 = "writeWithContext") ∧
    2 ≤ FactsIO.connIO.length ∧ FactsIO.connIO.length ≤ FactsIO.connIOCount := by decide +kernel

theorem connUses_nonempty : FactsIO.connUses ≠ [] := by decide +kernel

/-- the fourth conjunct of `C19.all_io_wrapped` is vacuous without a reading and a writing use; the two
    `call:Close` rows are the close on cancellation of both primitives -/
theorem connUses_has_read_and_write :
    (∃ x ∈ FactsIO.connUses, x.2.2.2 = "call:Read" ∨ x.2.2.2 = "arg:io.ReadFull") ∧
    (∃ x ∈ FactsIO.connUses, x.2.2.2 = "call:Write") ∧
    ("stream/stream.go", "readWithContext", "conn", "call:Close") ∈ FactsIO.connUses ∧
    ("stream/stream.go", "writeWithContext", "conn", "call:Close") ∈ FactsIO.connUses ∧
    FactsIO.connUses.length ≤ FactsIO.connUsesCount := by decide +kernel

/-- the names the extraction looks for are the names of the struct: `streamIOFields` are the I/O
    endpoint fields of stream.Stream, found by TYPE -/
theorem connUses_covers_stream_io_fields :
    FactsIO.streamIOFields ≠ [] ∧
    (∃ f ∈ FactsIO.streamIOFields, f.2 = "net.Conn") ∧
    (∀ f ∈ FactsIO.streamIOFields, f.1 = "conn" ∨ f.1 = "reader" ∨ f.1 = "writer") ∧
    (∀ f ∈ FactsIO.streamIOFields, ∃ x ∈ FactsIO.connUses, x.2.2.1 = f.1) ∧
    (∀ f ∈ FactsIO.streamIOFields, ∃ x ∈ FactsIO.connUses, x.2.2.1 = f.1 ∧ x.2.2.2 = "assign") := by decide +kernel

/-- the floors are far below the counts of a working scan; a pattern that stops matching gives 0 -/
theorem ctx_scan_nonempty :
    50 ≤ FactsIO.funcsScanned ∧ 20 ≤ FactsIO.ctxParamFuncs ∧ 50 ≤ FactsIO.ctxArgsSeen ∧
    FactsIO.ctxParamFuncs ≤ FactsIO.ctxArgsSeen + FactsIO.funcsScanned := by decide +kernel

theorem ctx_tables_within_scan :
    FactsIO.ctxFresh.length ≤ FactsIO.ctxFreshCount ∧
    FactsIO.ctxForeign.length ≤ FactsIO.ctxForeignCount ∧
    FactsIO.ctxStored.length ≤ FactsIO.ctxStoredCount := by decide +kernel

theorem noctx_scan_nonempty :
    50 ≤ FactsNoCtx.funcsScanned ∧ 200 ≤ FactsNoCtx.callsScanned ∧
    FactsNoCtx.blocking.length ≤ FactsNoCtx.blockingCount ∧ FactsNoCtx.blockingCount ≤ FactsNoCtx.callsScanned := by decide +kernel

end Cedar.GenNonEmpty
