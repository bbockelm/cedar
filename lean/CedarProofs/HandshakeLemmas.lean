/-
  What the parts of a handshake return when they succeed: the authentication loops (they keep a
  trail of exchanges), the authentication phases, the negotiation, the key set-up, and the three
  machines built from them, each with one lemma that takes a successful run apart: client and
  server against an arbitrary peer, and two honest endpoints against each other, whose key
  set-ups yield the same key.
-/
import CedarModel.Handshake
import CedarProofs.Util

namespace Cedar.HS

/-- the trail of exchanges a loop keeps while it retries: failures of methods in `L` -/
def Failed (L : List String) (ran : List (String × Bool)) : Prop := ∀ x ∈ ran, x.1 ∈ L ∧ x.2 = false

/-- the trail of a loop that succeeded with `m` -/
def RanTo (L : List String) (m : String) (ran : List (String × Bool)) : Prop :=
  (m, true) ∈ ran ∧ (∀ x ∈ ran, x.1 ∈ L) ∧ ∀ x ∈ ran, x.2 = true → x.1 = m

theorem Failed.nil {L} : Failed L [] := fun _ hx => by cases hx

theorem Failed.snoc {L ran m} (h : Failed L ran) (hm : m ∈ L) : Failed L (ran ++ [(m, false)]) :=
  List.forall_mem_append.mpr ⟨h, List.forall_mem_singleton.mpr ⟨hm, rfl⟩⟩

theorem Failed.ranTo {L ran m} (h : Failed L ran) (hm : m ∈ L) : RanTo L m (ran ++ [(m, true)]) :=
  ⟨by simp,
   List.forall_mem_append.mpr ⟨fun x hx => (h x hx).1, List.forall_mem_singleton.mpr hm⟩,
   List.forall_mem_append.mpr
     ⟨fun x hx hb => absurd ((h x hx).2.symm.trans hb) nofun, List.forall_mem_singleton.mpr fun _ => rfl⟩⟩

theorem RanTo.mono {L L' m ran} (h : RanTo L m ran) (hsub : ∀ x ∈ L, x ∈ L') : RanTo L' m ran :=
  ⟨h.1, fun x hx => hsub _ (h.2.1 x hx), h.2.2⟩

theorem clientLoop_success {offered : List String} {authOK : String → Bool} {replies : List Int} {mask : Nat}
    {ran ran' : List (String × Bool)} {m : String} (hran : Failed offered ran)
    (h : clientLoop offered authOK mask replies ran = .success m ran') :
    m ∈ offered ∧ authOK m = true ∧ RanTo offered m ran' := by
  induction replies generalizing mask ran with
  | nil => cases h
  | cons r rest ih =>
    rw [clientLoop] at h
    obtain ⟨-, h⟩ := ite_else_of_ne h nofun
    obtain ⟨-, h⟩ := ite_else_of_ne h nofun
    obtain ⟨-, h⟩ := ite_else_of_ne h nofun
    split at h; · cases h
    have hmem := List.mem_of_find?_eq_some ‹_›
    split at h
    · cases h; exact ⟨hmem, ‹_›, hran.ranTo hmem⟩
    · exact ih (hran.snoc hmem) h

theorem serverLoop_success {own : List String} {authOK : String → Option String} {masks : List Int}
    {ran ran' : List (String × Bool)} {m u : String} (hran : Failed own ran)
    (h : serverLoop own authOK masks ran = .success m u ran') :
    m ∈ own ∧ authOK m = some u ∧ RanTo own m ran' := by
  induction masks generalizing ran with
  | nil => cases h
  | cons mk rest ih =>
    rw [serverLoop] at h
    split at h; · cases h
    simp only at h
    split at h; · exact ih hran h
    have hmem := List.mem_of_find?_eq_some ‹_›
    split at h
    · cases h; exact ⟨hmem, ‹_›, hran.ranTo hmem⟩
    · exact ih (hran.snoc hmem) h

theorem clientAuthPhase_ok {cfg : ClientCfg} {srv : ServerScript} {didAuth method ran}
    (h : clientAuthPhase cfg srv = .ok (didAuth, method, ran)) :
    (didAuth = false ∧ ran = [] ∧ cfg.auth ≠ lvlRequired ∧ method = authNone ∧ srv.auth ≠ "YES") ∨
    (didAuth = true ∧ srv.auth = "YES" ∧ method ∈ cfg.methods ∧ srv.authOK method = true ∧
      RanTo cfg.methods method ran) := by
  unfold clientAuthPhase at h
  by_cases ha : srv.auth ≠ "YES"
  · rw [if_pos ha] at h
    obtain ⟨hr, h⟩ := ite_else_of_ne h nofun
    cases h; exact .inl ⟨rfl, rfl, hr, rfl, ha⟩
  rw [if_neg ha] at h
  obtain ⟨_, h⟩ := ite_else_of_ne h nofun
  obtain ⟨_, h⟩ := ite_else_of_ne h nofun
  split at h
  · rename_i m ran1 hloop
    -- whichever branch of the key message succeeds, the result is the loop's
    have hres : (true, m, ran1) = (didAuth, method, ran) := by
      split at h
      · exact Except.ok.inj h
      · exact Except.ok.inj (ite_then_of_ne h nofun).2
      · cases h
    cases hres
    obtain ⟨hmem, hok, hran⟩ := clientLoop_success .nil hloop
    exact .inr ⟨rfl, Decidable.of_not_not ha, (List.mem_filter.mp hmem).1, hok,
      hran.mono fun _ hx => (List.mem_filter.mp hx).1⟩
  · cases h
  · cases h

theorem serverAuthPhase_ok {cfg : ServerCfg} {cli : ClientScript} {d : Decision} {method user ran}
    (h : serverAuthPhase cfg cli d = .ok (method, user, ran)) :
    (d.authentication = false ∧ ran = [] ∧ user = "" ∧ method = authNone) ∨
    (d.authentication = true ∧ method ∈ cfg.methods ∧ cli.authOK method = some user ∧ RanTo cfg.methods method ran) := by
  unfold serverAuthPhase at h
  cases hd : d.authentication with
  | false => rw [hd] at h; cases h; exact .inl ⟨rfl, rfl, rfl, rfl⟩
  | true =>
    rw [hd] at h
    simp only [Bool.not_true, Bool.false_eq_true, if_false] at h
    split at h
    · cases h; exact .inr ⟨rfl, serverLoop_success .nil ‹_›⟩
    · cases h
    · cases h

theorem decide3_required_left {s c : String} {b : Bool} (h : s = lvlRequired) : decide3 s c b = true :=
  if_pos (.inl h)

theorem negotiateCore_ok {sa ca se ce : String} {ha hc : Bool}
    (h : (negotiateCore sa ca se ce ha hc).1 = none) :
    negotiateCore sa ca se ce ha hc = (none, decide3 sa ca ha, decide3 se ce hc) := by
  unfold negotiateCore at h ⊢
  -- `h` becomes the conjunction of the six negated error guards
  simp only [fst_ite_none] at h
  simp only [h, if_false]

theorem negotiate_required_auth {srv cli : View} {d : Decision} (h : negotiate srv cli = (d, none))
    (hreq : srv.auth = lvlRequired) : d.authentication = true := by
  unfold negotiate at h
  simp only [Prod.mk.injEq] at h
  obtain ⟨rfl, hnone⟩ := h
  rw [negotiateCore_ok hnone]; exact decide3_required_left hreq

/-- the second conjunct: no continuation in clear once encryption was decided or is required locally
    (F-C03-plaintext-fallback) -/
theorem setupEnc_ok {ownEnc ownInteg decided negCrypto ownKey adv peerKey key}
    (h : setupEnc ownEnc ownInteg decided negCrypto ownKey adv peerKey = .ok key) :
    key = estKey negCrypto ownKey adv peerKey ∧
    (decided = true ∨ ownEnc = lvlRequired ∨ ownInteg = lvlRequired → key.isSome = true) := by
  unfold setupEnc at h
  cases he : estKey negCrypto ownKey adv peerKey with
  | some k => rw [he] at h; cases h; exact ⟨rfl, fun _ => rfl⟩
  | none =>
    rw [he] at h
    obtain ⟨hc, h⟩ := ite_else_of_ne h nofun
    cases h; exact ⟨rfl, fun hreq => absurd hreq hc⟩

theorem clientFull_rejected {cfg : ClientCfg} {srv : ServerScript} (h : rcRejected srv.returnCode = true) :
    clientFull cfg srv = .error .refused := by
  rw [clientFull, if_pos h]

structure ClientFullOk (cfg : ClientCfg) (srv : ServerScript) (o : Outcome) (d : Decision) (pa : PostAuth) : Prop where
  notRejected : rcRejected srv.returnCode = false
  neg : negotiate ⟨srv.auth, srv.enc, srv.methods, srv.ciphers⟩ ⟨cfg.auth, cfg.enc, cfg.methods, cfg.ciphers⟩ =
    (d, none)
  auth : clientAuthPhase cfg srv = .ok (o.reportedAuth, o.reportedMethod, o.ran)
  key : setupEnc cfg.enc cfg.integ d.encryption d.negCrypto cfg.keyId cfg.keyId.isSome srv.key = .ok o.streamKey
  reportedEnc : o.reportedEnc = o.streamKey.isSome
  postAuth : srv.postAuth = some pa
  sealed : pa.sealed = o.streamKey.isSome
  authorized : rcNotAuthorized pa.returnCode = false
  user : o.user = pa.user
  sid : o.sid = pa.sid
  validCommands : o.validCommands = pa.validCommands

theorem clientFull_ok {cfg : ClientCfg} {srv : ServerScript} {o : Outcome} (h : clientFull cfg srv = .ok o) :
    ∃ d pa, ClientFullOk cfg srv o d pa := by
  unfold clientFull at h
  obtain ⟨hrc, h⟩ := ite_else_of_ne h nofun
  split at h
  · cases h
  rename_i d hneg
  split at h
  · cases h
  rename_i didAuth method ran hauth
  split at h
  · cases h
  rename_i key hkey
  split at h
  · cases h
  rename_i pa hpa
  obtain ⟨hs, h⟩ := ite_else_of_ne h nofun
  obtain ⟨hna, h⟩ := ite_else_of_ne h nofun
  cases Except.ok.inj h
  exact ⟨d, pa, Bool.eq_false_iff.mpr hrc, hneg, hauth, hkey, rfl, hpa, Decidable.of_not_not hs,
    Bool.eq_false_iff.mpr hna, rfl, rfl, rfl⟩

structure ServerFullOk (cfg : ServerCfg) (cli : ClientScript) (sid : String) (o : Outcome) (adv : Decision) : Prop where
  neg : negotiate ⟨cfg.auth, cfg.enc, cfg.methods, cfg.ciphers⟩ ⟨cli.auth, cli.enc, cli.methods, cli.ciphers⟩ =
    (adv, none)
  auth : serverAuthPhase cfg cli adv = .ok (o.reportedMethod, o.user, o.ran)
  key : setupEnc cfg.enc cfg.integ adv.encryption adv.negCrypto cfg.keyId cfg.keyId.isSome cli.key = .ok o.streamKey
  reportedAuth : o.reportedAuth = adv.authentication
  reportedEnc : o.reportedEnc = o.streamKey.isSome
  validCommands : o.validCommands = ""
  sid : o.sid = sid

theorem serverFull_ok {cfg : ServerCfg} {cli : ClientScript} {sid : String} {o : Outcome} {adv : Decision}
    (h : serverFull cfg cli sid = .ok o adv) : ServerFullOk cfg cli sid o adv := by
  unfold serverFull at h
  split at h
  · cases h
  · rename_i d hneg
    split at h
    · cases h
    · rename_i method user ran hauth
      split at h
      · cases h
      · rename_i key hkey
        simp only [SrvResult.ok.injEq] at h
        obtain ⟨rfl, rfl⟩ := h
        exact ⟨hneg, hauth, hkey, rfl, rfl, rfl, rfl⟩

theorem serverFull_authenticated {cfg : ServerCfg} {cli : ClientScript} {sid : String} {o : Outcome} {adv : Decision}
    (h : serverFull cfg cli sid = .ok o adv) (ha : o.reportedAuth = true) :
    ∃ m ∈ cfg.methods, (m, true) ∈ o.ran ∧ cli.authOK m = some o.user := by
  have hk := serverFull_ok h
  rcases serverAuthPhase_ok hk.auth with ⟨hf, _, _⟩ | ⟨_, hm, hok, hran⟩
  · exact absurd (ha.symm.trans (hk.reportedAuth.trans hf)) nofun
  · exact ⟨_, hm, hran.1, hok⟩

theorem sharedKey_comm (a b : Nat) : sharedKey a b = sharedKey b a := by
  unfold sharedKey
  rcases Nat.lt_trichotomy a b with h | rfl | h
  · rw [if_pos (Nat.le_of_lt h), if_neg (Nat.not_le_of_gt h)]
  · rfl
  · rw [if_neg (Nat.not_le_of_gt h), if_pos (Nat.le_of_lt h)]

theorem honestAuthPhase_flag {c s d credOK b m ran} (h : honestAuthPhase c s d credOK = .ok (b, m, ran)) :
    b = d.authentication := by
  unfold honestAuthPhase at h
  cases hd : d.authentication with
  | false =>
    rw [hd, if_pos (by decide)] at h
    cases (ite_else_of_ne h nofun).2; rfl
  | true =>
    rw [hd, if_neg (by decide)] at h
    obtain ⟨_, h⟩ := ite_else_of_ne h nofun
    obtain ⟨_, h⟩ := ite_else_of_ne h nofun
    split at h
    · cases h; rfl
    · cases h
    · cases h

theorem estKey_agree (nc ns : String) (a b : Option Nat)
    (hk : (estKey nc a a.isSome (keyKindOf b)).isSome = (estKey ns b b.isSome (keyKindOf a)).isSome) :
    estKey nc a a.isSome (keyKindOf b) = estKey ns b b.isSome (keyKindOf a) := by
  cases a with
  | none => cases b <;> rfl
  | some x =>
    cases b with
    | none => rfl
    | some y =>
      -- each end derives a key exactly when the cipher IT negotiated is AES; by `hk` both do or neither does
      simp only [estKey, keyKindOf, Option.isSome_some, true_and] at hk ⊢
      by_cases h1 : nc = cryptoAES <;> by_cases h2 : ns = cryptoAES
      · rw [if_pos h1, if_pos h2, sharedKey_comm]
      · rw [if_pos h1, if_neg h2] at hk; cases hk
      · rw [if_neg h1, if_pos h2] at hk; cases hk
      · rw [if_neg h1, if_neg h2]

theorem setupEnc_keys_agree {ce ci se si : String} {dce dse : Bool} {nc ns : String} {a b : Option Nat} {kc ks}
    (h1 : setupEnc ce ci dce nc a a.isSome (keyKindOf b) = .ok kc)
    (h2 : setupEnc se si dse ns b b.isSome (keyKindOf a) = .ok ks)
    (hk : kc.isSome = ks.isSome) : kc = ks := by
  obtain ⟨e1, _⟩ := setupEnc_ok h1
  obtain ⟨e2, _⟩ := setupEnc_ok h2
  rw [e1, e2] at hk ⊢
  exact estKey_agree nc ns a b hk

theorem honestRun_ok {c : ClientCfg} {s : ServerCfg} {credOK : String → Bool} {user sid : String} {co so : Outcome}
    (hc : (honestRun c s credOK user sid).client = .ok co) (hs : (honestRun c s credOK user sid).server = .ok so) :
    ∃ d dc didAuth method ran kc ks,
      negotiate ⟨s.auth, s.enc, s.methods, s.ciphers⟩ ⟨c.auth, c.enc, c.methods, c.ciphers⟩ = (d, none) ∧
      negotiate ⟨if d.authentication then "YES" else "NO", if d.encryption then "YES" else "NO", s.methods, s.ciphers⟩
        ⟨c.auth, c.enc, c.methods, c.ciphers⟩ = (dc, none) ∧
      honestAuthPhase c s d credOK = .ok (didAuth, method, ran) ∧
      setupEnc c.enc c.integ dc.encryption dc.negCrypto c.keyId c.keyId.isSome (keyKindOf s.keyId) = .ok kc ∧
      setupEnc s.enc s.integ d.encryption d.negCrypto s.keyId s.keyId.isSome (keyKindOf c.keyId) = .ok ks ∧
      kc.isSome = ks.isSome ∧
      co = ⟨didAuth, kc.isSome, method,
            if (if didAuth then user else "") = "" then "unauthenticated@unmapped" else if didAuth then user else "",
            sid, "", kc, ran⟩ ∧
      so = ⟨d.authentication, ks.isSome, method, if didAuth then user else "", sid, "", ks, ran⟩ := by
  generalize hr : honestRun c s credOK user sid = r at hc hs
  unfold honestRun at hr
  split at hr
  · subst hr; cases hc
  rename_i d hneg
  split at hr
  · subst hr; cases hc
  rename_i dc hnegc
  split at hr
  · subst hr; cases hc
  rename_i didAuth method ran hauth
  -- the two key set-ups: where either fails, the client or the server does
  split at hr
  · rename_i kc ks hkc hks
    by_cases hk : kc.isSome ≠ ks.isSome
    · simp only [if_pos hk] at hr; subst hr; cases hc
    · simp only [if_neg hk] at hr; subst hr; cases hc; cases hs
      exact ⟨d, dc, didAuth, method, ran, kc, ks, hneg, hnegc, hauth, hkc, hks, Decidable.of_not_not hk, rfl, rfl⟩
  · subst hr; cases hc
  · subst hr; cases hs
  · subst hr; cases hc

end Cedar.HS
