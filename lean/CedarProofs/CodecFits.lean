/-
  `Fits`, for C01 ("the typed-message layer accepts values of any length, splitting them across
  frames itself") and C14: every frame a put flushes (hence `putAll` on any value list) is within the
  per-mode payload bound `maxFramePayload enc`, and so is the buffer it leaves, which the next put
  flushes or `FinishMessage` sends as the end-of-message frame.
-/
import CedarProofs.CodecStr

namespace Cedar

def Fits (enc : Bool) (r : PutRes) : Prop :=
  (∀ f ∈ r.2, f.1.length ≤ maxFramePayload enc) ∧ r.1.length ≤ maxFramePayload enc

theorem target_le_max (enc : Bool) : targetFrameSize ≤ maxFramePayload enc := by
  unfold targetFrameSize maxFramePayload maxFrameSize gcmRoom; cases enc <;> decide

theorem fits_mk {enc : Bool} {b : Bytes} {fl : List OutFrame}
    (h1 : ∀ f ∈ fl, f.1.length ≤ maxFramePayload enc) (h2 : b.length ≤ maxFramePayload enc) : Fits enc (b, fl) := ⟨h1, h2⟩

theorem fits_putInt (enc : Bool) (buf : Bytes) (v : Int) (hb : buf.length ≤ maxFramePayload enc) :
    Fits enc (putInt buf v) := by
  have := target_le_max enc
  have : 8 ≤ targetFrameSize := by decide
  unfold putInt
  split
  · exact ⟨by simpa using hb, by simp; omega⟩
  · exact ⟨by simp, by simp; omega⟩

theorem fits_putChar (enc : Bool) (buf : Bytes) (c : UInt8) (hb : buf.length ≤ maxFramePayload enc) :
    Fits enc (putChar buf c) := by
  have := target_le_max enc
  have : 1 ≤ targetFrameSize := by decide
  unfold putChar
  split
  · exact ⟨by simpa using hb, by simp; omega⟩
  · exact ⟨by simp, by simp; omega⟩

theorem fits_flushIf (enc : Bool) (c : Prop) [Decidable c] (buf : Bytes) (hb : buf.length ≤ maxFramePayload enc) :
    Fits enc (if c then (([] : Bytes), [((buf, false) : OutFrame)]) else (buf, [])) := by
  split
  · exact fits_mk (by simpa using hb) (by simp)
  · exact fits_mk (by simp) hb

theorem flushIf_fst_add_le (c : Prop) [Decidable c] (buf : Bytes) (k m : Nat) (hk : k ≤ m)
    (h : ¬ c → buf.length + k ≤ m) :
    (if c then (([] : Bytes), [((buf, false) : OutFrame)]) else (buf, [])).1.length + k ≤ m := by
  split
  · simpa using hk
  · next hc => exact h hc

theorem fits_seqPut {enc : Bool} {r1 : PutRes} {f : Bytes → PutRes} (h1 : Fits enc r1)
    (h2 : ∀ b, b.length ≤ maxFramePayload enc → Fits enc (f b)) : Fits enc (seqPut r1 f) :=
  ⟨List.forall_mem_append.mpr ⟨h1.1, (h2 _ h1.2).1⟩, (h2 _ h1.2).2⟩

theorem fits_putChunks (enc : Bool) : ∀ (chunks : List Bytes) (buf : Bytes),
    buf.length ≤ maxFramePayload enc → (∀ ch ∈ chunks, ch.length ≤ maxFramePayload enc) →
    Fits enc (putChunks buf chunks) := by
  intro chunks
  induction chunks with
  | nil => intro buf hb _; exact fits_mk (by simp) hb
  | cons ch rest ih =>
    intro buf hb hch
    obtain ⟨a, b⟩ := ih ch (hch ch (List.mem_cons_self ..)) (fun c h => hch c (List.mem_cons_of_mem _ h))
    unfold putChunks
    by_cases hpos : buf.length > 0
    · simp only [hpos, if_true, List.nil_append]
      exact ⟨List.forall_mem_cons.mpr ⟨hb, a⟩, b⟩
    · obtain rfl := List.eq_nil_of_length_eq_zero (Nat.eq_zero_of_not_pos hpos)
      exact ⟨a, b⟩

theorem fits_putBytes (enc : Bool) (buf data : Bytes) (hb : buf.length ≤ maxFramePayload enc) :
    Fits enc (putBytes enc buf data) := by
  have ht := target_le_max enc
  unfold putBytes
  split
  · exact fits_mk (by simp) hb
  · split
    · exact fits_putChunks enc _ buf hb fun ch h =>
        ((chunksOf_spec _ (maxFramePayload_pos enc) _ data (Nat.le_refl _)).2 ch h).2
    · split
      · exact fits_mk (by simpa using hb) (by omega)
      · exact fits_mk (by simp) (by rw [List.length_append]; omega)

theorem putInt_fst_length_le (buf : Bytes) (v : Int) : (putInt buf v).1.length ≤ buf.length + 8 := by
  unfold putInt
  split <;> simp

theorem fits_lenPrefix (enc : Bool) (r : PutRes) (n : Int) (h : Fits enc r) :
    Fits enc (if enc = true then seqPut r (fun b => putInt b n) else r) ∧
    (if enc = true then seqPut r (fun b => putInt b n) else r).1.length ≤ r.1.length + (if enc = true then 8 else 0) := by
  cases enc with
  | false => exact ⟨h, Nat.le_refl _⟩
  | true =>
    simp only [if_true]
    exact ⟨fits_seqPut h (fun b hb => fits_putInt true b n hb), putInt_fst_length_le r.1 n⟩

/-- the short branch of the string putters -/
theorem fits_prefixed (enc : Bool) (r : PutRes) (data : Bytes) (n : Int) (h : Fits enc r)
    (hl : r.1.length + ((if enc = true then 8 else 0) + data.length) ≤ maxFramePayload enc) :
    Fits enc ((if enc = true then seqPut r (fun b => putInt b n) else r).1 ++ data,
              (if enc = true then seqPut r (fun b => putInt b n) else r).2) := by
  obtain ⟨⟨a, _⟩, hl'⟩ := fits_lenPrefix enc r n h
  exact fits_mk a (by rw [List.length_append]; omega)

theorem fits_putString (enc : Bool) (buf s : Bytes) (hb : buf.length ≤ maxFramePayload enc) :
    Fits enc (putString enc buf s) := by
  have ht := target_le_max enc
  unfold putString
  by_cases hbig : (truncNul s ++ [0]).length + (if enc = true then 8 else 0) > maxFramePayload enc
  · rw [if_pos hbig]
    exact fits_seqPut (fits_lenPrefix enc _ _ (fits_flushIf enc _ buf hb)).1 (fun b hb' => fits_putBytes enc b _ hb')
  · rw [if_neg hbig]
    -- flushed: prefix and data alone fit a frame; not flushed: buffer, prefix and data are below `TargetFrameSize`
    exact fits_prefixed enc _ _ _ (fits_flushIf enc _ buf hb)
      (flushIf_fst_add_le _ buf _ _ (by omega) (fun h => by omega))

theorem fits_putStringBytes (enc : Bool) (buf s : Bytes) (hb : buf.length ≤ maxFramePayload enc) :
    Fits enc (putStringBytes enc buf s) := by
  unfold putStringBytes
  by_cases hbig : (truncNul s).length + 1 + (if enc = true then 8 else 0) > maxFramePayload enc
  · rw [if_pos hbig]
    exact fits_seqPut (fits_seqPut (fits_lenPrefix enc _ _ (fits_flushIf enc _ buf hb)).1
      (fun b hb' => fits_putBytes enc b _ hb')) (fun b hb' => fits_putBytes enc b _ hb')
  · rw [if_neg hbig]
    exact fits_putString enc buf s hb

theorem fits_putStringBytesL (enc : Bool) (buf s : Bytes) (hb : buf.length ≤ maxFramePayload enc) :
    Fits enc (putStringBytesL enc buf s) :=
  putStringBytesL_eq enc buf s ▸ fits_putStringBytes enc buf s hb

theorem fits_putVal (enc : Bool) (buf : Bytes) (v : Val) (hb : buf.length ≤ maxFramePayload enc) :
    Fits enc (putVal enc buf v) := by
  cases v with
  | int x => exact fits_putInt enc buf x hb
  | char c => exact fits_putChar enc buf c hb
  | str s => exact fits_putString enc buf s hb

theorem fits_putAll (enc : Bool) : ∀ (vs : List Val) (buf : Bytes), buf.length ≤ maxFramePayload enc →
    Fits enc (putAll enc buf vs) := by
  intro vs
  induction vs with
  | nil => intro buf hb; exact fits_mk (by simp) hb
  | cons v rest ih =>
    intro buf hb
    unfold putAll
    exact fits_seqPut (fits_putVal enc buf v hb) (fun b hb' => ih b hb')

end Cedar
