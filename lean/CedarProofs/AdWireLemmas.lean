/-
  For C08, ClassAd wire: the skipping receiver agrees with the two reading receivers (`Agree`, projecting
  the value away) — string by string, expression by expression, loop by loop. The `_map`, `_bind`, `_succ`
  lemmas write the receiver functions of the model with `map` / `>>=`: `Agree.bind` does not unify with
  the model's own `match`es. `.ok a >>= f` is reduced by `dsimp only [bind, Except.bind]`: core has no
  rewrite rule for it, and `simp` makes no progress.
-/
import CedarProofs.SkipLemmas
import CedarProofs.LiteralLemmas

namespace Cedar

theorem Rd.getStringIn_map (enc : Bool) (r : Rd) :
    r.getStringIn enc = (r.d.getString enc).map fun p => (p.1, { r with d := p.2 }) := by
  unfold Rd.getStringIn; cases r.d.getString enc <;> rfl

theorem Rd.skipStringIn_map (enc : Bool) (r : Rd) :
    r.skipStringIn enc = (r.d.skipString enc).map fun d => { r with d := d } := by
  unfold Rd.skipStringIn; cases r.d.skipString enc <;> rfl

theorem Rd.skipStringIsIn_map (enc : Bool) (want : Bytes) (r : Rd) :
    r.skipStringIsIn enc want = (r.d.skipStringIs enc want).map fun p => (p.1, { r with d := p.2 }) := by
  unfold Rd.skipStringIsIn; cases r.d.skipStringIs enc want <;> rfl

theorem Rd.guard_map (r : Rd) : r.guard = (r.d.ensure 1).map fun d => { r with d := d } := by
  unfold Rd.guard; cases r.d.ensure 1 <;> rfl

theorem Rd.readExpr_bind (r : Rd) :
    r.readExpr = r.getStringIn r.mode >>= fun p => if p.1 = marker then p.2.getStringIn p.2.secretMode else .ok p := by
  unfold Rd.readExpr Rd.getString; cases r.getStringIn r.mode <;> rfl

theorem Rd.skipExpr_bind (r : Rd) :
    r.skipExpr = r.skipStringIsIn r.mode marker >>= fun p => if p.1 then p.2.skipStringIn p.2.secretMode else .ok p.2 := by
  unfold Rd.skipExpr
  cases r.skipStringIsIn r.mode marker with
  | error e => rfl
  | ok p => obtain ⟨b, r1⟩ := p; cases b <;> rfl

theorem rawLoop_succ (n : Nat) (r : Rd) (acc : List Bytes) :
    rawLoop (n + 1) r acc = r.guard >>= fun rg => rg.readExpr >>= fun p => rawLoop n p.2 (p.1 :: acc) := by
  rw [rawLoop]
  cases r.guard with
  | error e => rfl
  | ok rg => dsimp only [bind, Except.bind]; cases rg.readExpr <;> rfl

theorem adLoop_succ (ferr pok : Bytes → Bool) (n : Nat) (r : Rd) (acc : List Item) :
    adLoop ferr pok (n + 1) r acc =
      r.readExpr >>= fun p => parseAndInsert ferr pok p.1 >>= fun it => adLoop ferr pok n p.2 (it :: acc) := by
  rw [adLoop]
  cases r.readExpr with
  | error e => rfl
  | ok p => dsimp only [bind, Except.bind]; cases parseAndInsert ferr pok p.1 <;> rfl

theorem skipLoop_succ (n : Nat) (r : Rd) : skipLoop (n + 1) r = r.guard >>= fun rg => rg.skipExpr >>= skipLoop n := by
  rw [skipLoop]
  cases r.guard with
  | error e => rfl
  | ok rg => dsimp only [bind, Except.bind]; cases rg.skipExpr <;> rfl

/-- the test `getRawBody` applies to each type name, as a step of its own in the chain of binds -/
def typeCheck (t : Bytes) : Except Err Unit := if !t.isEmpty && !isTypeName t then .error .malformed else .ok ()

theorem typeCheck_err (t : Bytes) (e : Err) (h : typeCheck t = .error e) : e = .malformed := by
  unfold typeCheck at h; split at h <;> cases h; rfl

theorem typeCheck_ok (t : Bytes) (h : t = [] ∨ isTypeName t = true) : typeCheck t = .ok () := by
  unfold typeCheck
  rcases h with rfl | h
  · rfl
  · simp [h]

theorem Rd.getRaw_bind (r : Rd) : r.getRaw = r.getInt >>= fun p => rawLoop p.1.toNat p.2 [] >>= fun q =>
    q.2.getStringIn q.2.mode >>= fun my => typeCheck my.1 >>= fun _ =>
      my.2.getStringIn my.2.mode >>= fun tg => typeCheck tg.1 >>= fun _ => .ok (⟨q.1, my.1, tg.1⟩, tg.2) := by
  unfold Rd.getRaw Rd.getRawBody Rd.getString typeCheck
  cases r.getInt with
  | error e => rfl
  | ok p =>
    dsimp only [bind, Except.bind]
    cases rawLoop p.1.toNat p.2 [] with
    | error e => rfl
    | ok q =>
      dsimp only
      cases q.2.getStringIn q.2.mode with
      | error e => rfl
      | ok my =>
        dsimp only
        split
        · rfl
        · dsimp only
          cases my.2.getStringIn my.2.mode with
          | error e => rfl
          | ok tg => dsimp only; split <;> rfl

theorem Rd.getAd_bind (ferr pok : Bytes → Bool) (r : Rd) : r.getAd ferr pok = r.getInt >>= fun p =>
    adLoop ferr pok p.1.toNat p.2 [] >>= fun q => q.2.getStringIn q.2.mode >>= fun my =>
      my.2.getStringIn my.2.mode >>= fun tg => .ok (q.1 ++ typeItems my.1 tg.1, tg.2) := by
  unfold Rd.getAd Rd.getString
  cases r.getInt with
  | error e => rfl
  | ok p =>
    dsimp only [bind, Except.bind]
    cases adLoop ferr pok p.1.toNat p.2 [] with
    | error e => rfl
    | ok q =>
      dsimp only
      cases q.2.getStringIn q.2.mode with
      | error e => rfl
      | ok my => dsimp only; cases my.2.getStringIn my.2.mode <;> rfl

theorem Rd.skipAd_bind (r : Rd) : r.skipAd = r.getInt >>= fun p => skipLoop p.1.toNat p.2 >>= fun r2 =>
    r2.skipStringIn r2.mode >>= fun r3 => r3.skipStringIn r3.mode := by
  unfold Rd.skipAd Rd.skipString
  cases r.getInt with
  | error e => rfl
  | ok p =>
    dsimp only [bind, Except.bind]
    cases skipLoop p.1.toNat p.2 with
    | error e => rfl
    | ok r2 => dsimp only; cases r2.skipStringIn r2.mode <;> rfl

theorem Rd.skipStringIn_agree (enc : Bool) (r : Rd) : Agree Prod.snd (r.getStringIn enc) (r.skipStringIn enc) := by
  rw [Rd.getStringIn_map, Rd.skipStringIn_map]; exact (skipString_agree enc r.d).map fun _ => rfl

theorem Rd.skipStringIsIn_agree (enc : Bool) (want : Bytes) (hw : want ≠ []) (r : Rd) :
    Agree (fun p => (p.1 == want, p.2)) (r.getStringIn enc) (r.skipStringIsIn enc want) := by
  rw [Rd.getStringIn_map, Rd.skipStringIsIn_map]; exact (skipStringIs_agree enc want hw r.d).map fun _ => rfl

theorem Rd.skipExpr_agree (r : Rd) : Agree Prod.snd r.readExpr r.skipExpr := by
  rw [Rd.readExpr_bind, Rd.skipExpr_bind]
  refine (Rd.skipStringIsIn_agree r.mode marker (by decide) r).bind fun p => ?_
  dsimp only
  by_cases hm : p.1 = marker
  · rw [if_pos hm, if_pos (by simpa using hm)]; exact Rd.skipStringIn_agree _ _
  · rw [if_neg hm, if_neg (by simpa using hm)]; exact .pure p

/-- the per-round `ensureData(1)` in front of an expression changes nothing — except at the end of a
    plaintext message, where the unguarded read yields the empty string; a consumer `k` that rejects
    the empty string does not see the difference -/
theorem Rd.guard_readExpr {ρ : Type} (r : Rd) (k : Bytes × Rd → Except Err ρ) (hk : ∀ r', k ([], r') = .error .malformed) :
    Agree id (r.readExpr >>= k) (r.guard >>= fun rg => rg.readExpr >>= k) := by
  rw [Rd.guard_map]
  cases h1 : r.d.ensure 1 with
  | ok d1 =>
    have : ({ r with d := d1 } : Rd).readExpr = r.readExpr := by
      simp only [Rd.readExpr_bind, Rd.getStringIn_map, getString_after_ensure _ r.d d1 h1]
    show Agree id _ (({ r with d := d1 } : Rd).readExpr >>= k)
    rw [this]; exact .refl _
  | error e =>
    rw [Rd.readExpr_bind, Rd.getStringIn_map]
    rcases getString_of_ensure_err r.mode r.d e h1 with hg | ⟨-, -, hg⟩ <;> rw [hg]
    · exact .refl _
    · exact .malformed (hk _)

theorem skipLoop_agree_raw : ∀ (n : Nat) (r : Rd) (acc : List Bytes), Agree Prod.snd (rawLoop n r acc) (skipLoop n r)
  | 0, r, acc => .pure (acc.reverse, r)
  | n + 1, r, acc => by
    rw [rawLoop_succ, skipLoop_succ]
    exact .bind_same fun rg => rg.skipExpr_agree.bind fun p => skipLoop_agree_raw n p.2 _

/-- the parsing receiver has no per-round guard, but it cannot get past an exhausted message either:
    there GetString yields "" (plaintext) or fails (encrypted), and "" does not parse -/
theorem skipLoop_agree_ad (ferr pok : Bytes → Bool) : ∀ (n : Nat) (r : Rd) (acc : List Item),
    Agree Prod.snd (adLoop ferr pok n r acc) (skipLoop n r)
  | 0, r, acc => .pure (acc.reverse, r)
  | n + 1, r, acc => by
    rw [adLoop_succ, skipLoop_succ]
    refine (r.guard_readExpr _ fun r' => by dsimp only; rw [parseAndInsert_nil]; rfl).trans ?_  -- `π = id`: `κ ∘ π` is `κ` by unfolding
    exact .bind_same fun rg => rg.skipExpr_agree.bind fun p =>
      .of_check (parseAndInsert_err ferr pok p.1) fun it => skipLoop_agree_ad ferr pok n p.2 _

theorem Rd.skipAd_agree_raw (r : Rd) : Agree Prod.snd r.getRaw r.skipAd := by
  rw [Rd.getRaw_bind, Rd.skipAd_bind]
  exact .bind_same fun p => (skipLoop_agree_raw _ _ _).bind fun q =>
    (Rd.skipStringIn_agree _ _).bind fun my => .of_check (typeCheck_err _) fun _ =>
      (Rd.skipStringIn_agree _ _).bind_left fun tg => .of_check (typeCheck_err _) fun _ => .pure _

theorem Rd.skipAd_agree_ad (ferr pok : Bytes → Bool) (r : Rd) : Agree Prod.snd (r.getAd ferr pok) r.skipAd := by
  rw [Rd.getAd_bind, Rd.skipAd_bind]
  exact .bind_same fun p => (skipLoop_agree_ad ferr pok _ _ _).bind fun q =>
    (Rd.skipStringIn_agree _ _).bind fun my => (Rd.skipStringIn_agree _ _).bind_left fun tg => .pure _

end Cedar
